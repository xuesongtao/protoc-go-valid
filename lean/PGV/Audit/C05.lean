import PGV.Props.C05

#print axioms PGV.Props.C05.C05_int
#print axioms PGV.Props.C05.C05_phone
#print axioms PGV.Props.C05.C05_float
#print axioms PGV.Props.C05.C05_idcard
#print axioms PGV.Props.C05.C05_email
#print axioms PGV.Props.C05.C05_verdict_phone
#print axioms PGV.Props.C05.C05_verdict_email
#print axioms PGV.Props.C05.C05_verdict_idcard
#print axioms PGV.Props.C05.C05_verdict_int
#print axioms PGV.Props.C05.C05_verdict_float
#print axioms PGV.Props.C05.C05_accepts_sound
#print axioms PGV.Props.C05.C05_year
#print axioms PGV.Props.C05.C05_year2month
#print axioms PGV.Props.C05.C05_date
#print axioms PGV.Props.C05.C05_datetime
#print axioms PGV.Props.C05.C05_layout_scan
#print axioms PGV.Props.C05.C05_in_canonical_rendering
#print axioms PGV.Props.C05.C05_unique_canonical_rendering
#print axioms PGV.Props.C05.C05_ints_slice
#print axioms PGV.Props.C05.C05_timefmt_year
#print axioms PGV.Props.C05.C05_timefmt_year2month
#print axioms PGV.Props.C05.C05_timefmt_date
#print axioms PGV.Props.C05.C05_timefmt_datetime
#print axioms PGV.Props.C05.C05_date_uses_layout
#print axioms PGV.Props.C05.C05_unique_string
#print axioms PGV.Props.C05.allDistinct_eq_distinct
#print axioms PGV.Props.C05.C05_prefix_suffix
#print axioms PGV.Props.C05.C05_patterns
