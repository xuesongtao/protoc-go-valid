import PGV.Proofs.JsonRT
import PGV.Props.Facts.RuleTable
import PGV.Proofs.Walker

/-!
# C16 — programmatic rules and functions override declared ones, with the documented scope
-/

namespace PGV.Props.C16
open PGV PGV.Model PGV.Proofs.Walker

/-- the rule set that applies to a struct: the outermost struct takes its typed set if that is
non-empty, otherwise the unscoped one; -/
theorem C16_outermost_rule_set (cfg : StructCfg) (t n : Bytes) :
    (structEnter cfg [] t n).2
      = (if ((cfg.typed.lookup t).getD []).isEmpty then cfg.outer else (cfg.typed.lookup t).getD []) := by
  unfold structEnter
  cases cfg.typed.lookup t <;> simp

/-- … a nested struct (reached under a non-empty path) only ever sees the set given for its own type:
the unscoped set does not leak inward, and a set typed for another struct does not apply -/
theorem C16_nested_rule_set (cfg : StructCfg) (path t n : Bytes) (h : path ≠ []) :
    (structEnter cfg path t n).2 = (cfg.typed.lookup t).getD [] := by
  have : path.isEmpty = false := by cases path <;> simp_all
  unfold structEnter
  cases cfg.typed.lookup t <;> simp [this]

/-- the rule evaluated for a field: the set's rule for that field name if it has a non-empty one —
*instead of* the tag rule — else the tag rule under the requested tag name -/
theorem C16_effective_rule (cfg : StructCfg) (sn : Bytes) (cus : RM) (name : Bytes)
    (tags : List (Bytes × Bytes)) (v : GoVal) (rest : Fields) (st : WSt) :
    fieldsLoop cfg sn cus (.cons name true false tags v rest) st
      = (let rule := if !(rmGet cus name).isEmpty then rmGet cus name else tagGet tags cfg.tag
         (if rule.isEmpty then pure st
          else fieldRules cfg.ext cfg.fns sn sn name v
            (fun isValidTvKind skip cusMsg st => existTop cfg sn name v isValidTvKind skip cusMsg st)
            (validNamesSplit rule) false st) >>= fun st1 => fieldsLoop cfg sn cus rest st1) :=
  fieldsLoop_rules cfg sn cus name tags v rest st

/-- a set that does not mention the field leaves the tag rule in force -/
theorem C16_unmentioned_keeps_tag (cus : RM) (name : Bytes) (tags : List (Bytes × Bytes)) (tag : Bytes)
    (h : rmGet cus name = []) :
    (if !(rmGet cus name).isEmpty then rmGet cus name else tagGet tags tag) = tagGet tags tag := by simp [h]

/-- function lookup order: per-call table, then the global table (registered functions), then built-ins; -/
theorem C16_fn_per_call_first (t : FnTables) (key mk : Bytes) (h : t.localFns.lookup key = some mk) :
    resolveFn t key = .custom mk := resolve_local t key mk h

theorem C16_fn_global_second (t : FnTables) (key mk : Bytes) (h1 : t.localFns.lookup key = none)
    (h2 : t.globalFns.lookup key = some mk) : resolveFn t key = .custom mk := resolve_global t key mk h1 h2

theorem C16_fn_builtin_last (t : FnTables) (key : Bytes) (h1 : t.localFns.lookup key = none)
    (h2 : t.globalFns.lookup key = none) :
    resolveFn t key = (match builtin key with
      | some .structural => .structural
      | some (.fn run) => .builtin run
      | none => .unknown) := resolve_builtin t key h1 h2

/-- … an undefined name yields one clause and the remaining rules of the field still run -/
theorem C16_unknown_continues (ext : Ext) (fns : FnTables) (scope sn fname : Bytes) (v : GoVal)
    (descend : Bool → Bool → Bytes → WSt → M WSt) (r : Bytes) (rs : List Bytes) (d : Bool) (st : WSt)
    (hr : r ≠ []) (hk : resolveFn fns (parseValidNameKV r).1 = .unknown) :
    fieldRules ext fns scope sn fname v descend (r :: rs) d st
      = fieldRules ext fns scope sn fname v descend rs d
          (st.write (getJoinFieldErr sn fname (unknownFnMsg (parseValidNameKV r).1))) :=
  fieldRules_unknown ext fns scope sn fname v descend r rs d st hr hk

/-! non-vacuity: outer and inner struct share the field name `A`; the unscoped set overrides only the outer one -/
example :
    let inner : GoVal := .struct (b! "main.In") (b! "In") false (.cons (b! "A") true false [(b! "valid", b! "ge=5")] (.int 0 3) .nil)
    let outer : GoVal := .struct (b! "main.Outer") (b! "Outer") false
      (.cons (b! "A") true false [(b! "valid", b! "ge=5")] (.int 0 3)
        (.cons (b! "In") true false [(b! "valid", b! "exist")] inner .nil))
    (match structValid { ext := fun _ => none, outer := [(b! "A", b! "le=1")] } (.val (b! "main.Outer") outer) with
     | .ok o => o.err o.groups | _ => none)
      = some (b! "\"Outer.A\" input \"3\", explain: it is more than 1 num-size; \"Outer.In.A\" input \"3\", explain: it is less than 5 num-size") := by
  decide +kernel

/-! ### type identity

Rule sets are keyed by the struct *type*.  The wire names a type by `Type().String()` plus a marker
`#n` for the n-th distinct type that prints alike; the marker is part of the key and is dropped where
the name is printed. -/

/-- the marker is removed where the type name is printed … -/
theorem C16_type_marker_not_printed (t ds : Bytes) (hne : ds ≠ []) (hd : ds.all (fun c => 48 ≤ c && c ≤ 57) = true) :
    stripTypeId (t ++ 35 :: ds) = t := by
  unfold stripTypeId
  have hrev : (t ++ 35 :: ds).reverse = ds.reverse ++ 35 :: t.reverse := by simp
  have hdr : ds.reverse.all (fun c => 48 ≤ c && c ≤ 57) = true := by
    rw [List.all_eq_true] at hd ⊢
    intro c hc; exact hd c (List.mem_reverse.mp hc)
  obtain ⟨h1, h2⟩ := PGV.Proofs.JsonRT.takeWhile_append_stop (fun c => 48 ≤ c && c ≤ 57) ds.reverse (35 :: t.reverse) hdr
    (by intro c r e; injection e with e1 _; subst e1; decide)
  have hemp : ds.reverse.isEmpty = false := by
    cases hds : ds.reverse with
    | nil => exact absurd (List.reverse_eq_nil_iff.mp hds) hne
    | cons _ _ => rfl
  rw [hrev]
  simp only [h1, h2, hemp, Bool.false_eq_true, if_false, List.reverse_reverse]

/-- … and two look-alike types are different keys: a rule set registered for one does not reach the other -/
theorem C16_look_alike_types_distinct (cfg : StructCfg) (rm : RM) (hne : rm ≠ []) :
    let cfg' : StructCfg := { cfg with typed := [(b! "main.Line", rm)], outer := [] }
    (structEnter cfg' (b! "Outer.A") (b! "main.Line") (b! "Line")).2 = rm ∧
    (structEnter cfg' (b! "Outer.B") (b! "main.Line#1") (b! "Line")).2 = [] := by
  have hk : ((b! "main.Line#1") == (b! "main.Line")) = false := by decide
  exact ⟨by simp [structEnter, List.lookup], by simp [structEnter, List.lookup, hk]⟩

example : stripTypeId (b! "main.Line#1") = b! "main.Line" ∧ stripTypeId (b! "main.Line") = b! "main.Line"
    ∧ stripTypeId (b! "struct { A int \"k:\\\"#1\\\"\" }") = b! "struct { A int \"k:\\\"#1\\\"\" }" := by decide +kernel

/-! ### `SetRule`: the registry of rule sets (`v.ruleMap[ty] = rule`, key `none` = the unscoped set)

A later registration for the same key replaces the earlier one; registrations for different keys do not
affect each other, in whatever order they are made (typed then unscoped = unscoped then typed); the call
configuration the walker sees (`StructCfg.outer`, `StructCfg.typed`) is the final content of this registry. -/

abbrev Registry := List (Option Bytes × RM)

def Registry.set (r : Registry) (k : Option Bytes) (rm : RM) : Registry := (k, rm) :: r.filter (fun e => e.1 != k)
def Registry.get (r : Registry) (k : Option Bytes) : Option RM := (r.find? (fun e => e.1 == k)).map (·.2)

theorem C16_setrule_last_wins (r : Registry) (k : Option Bytes) (rm : RM) : (r.set k rm).get k = some rm := by
  simp [Registry.set, Registry.get]

theorem C16_setrule_other_key (r : Registry) (k k' : Option Bytes) (rm : RM) (h : k ≠ k') :
    (r.set k rm).get k' = r.get k' := by
  have h1 : (k == k') = false := by simpa using h
  simp only [Registry.set, Registry.get, List.find?_cons, h1, List.find?_filter]
  congr 2; funext e
  by_cases he : e.1 = k'
  · subst he; simpa using Ne.symm h
  · simp [he]

theorem C16_setrule_order_indep (r : Registry) (k1 k2 : Option Bytes) (rm1 rm2 : RM) (h : k1 ≠ k2) (k : Option Bytes) :
    ((r.set k1 rm1).set k2 rm2).get k = ((r.set k2 rm2).set k1 rm1).get k := by
  by_cases e1 : k = k1
  · subst e1
    rw [C16_setrule_other_key _ k2 k rm2 (Ne.symm h), C16_setrule_last_wins, C16_setrule_last_wins]
  · by_cases e2 : k = k2
    · subst e2
      rw [C16_setrule_last_wins, C16_setrule_other_key _ k1 k rm1 h, C16_setrule_last_wins]
    · rw [C16_setrule_other_key _ k2 k rm2 (Ne.symm e2), C16_setrule_other_key _ k1 k rm1 (Ne.symm e1),
        C16_setrule_other_key _ k1 k rm1 (Ne.symm e1), C16_setrule_other_key _ k2 k rm2 (Ne.symm e2)]

example : (Registry.get (Registry.set (Registry.set ([] : Registry) (some (b! "main.Inner")) [(b! "A", b! "required")]) none []) (some (b! "main.Inner")))
    = some [(b! "A", b! "required")] := by decide +kernel

/-- the code's rule table `validName2FnMap` binds every rule name to the function the model's table
binds it to, and has exactly the model's rule names (re-extracted from the source on every run) -/
theorem C16_rule_table : PGV.Expected.ruleTableOK PGV.Generated.ruleTable = true ∧ PGV.Expected.modelKeysOK PGV.Generated.ruleKeys = true :=
  ⟨PGV.Props.Facts.T2_rule_table, PGV.Props.Facts.T2_model_keys⟩

end PGV.Props.C16
