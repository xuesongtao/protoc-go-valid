import PGV.Proofs.LRU

/-!
# C09 — the LRU cache refines a bounded least-recently-used map

The property theorems and non-vacuity examples.  The invariant `Inv`, the abstraction `abs` and the
simulation theorem they all come from (`run_new_sim`) are in `PGV.Proofs.LRU`.
-/

namespace PGV.Props.C09
open PGV.Model.LRU PGV.Proofs.LRU

/-- the invariant holds in every reachable state, every capacity -/
theorem C09_inv (cap : Nat) (ops : List Op) : Inv (run (new cap) ops).1 :=
  (run_new_sim cap ops).1

/-- refinement: every op sequence on every capacity produces exactly the spec's outputs
    (Load results, Len, callback log, Dump) and commutes with `abs` -/
theorem C09_refines (cap : Nat) (ops : List Op) :
    (run (new cap) ops).2 = (PGV.Spec.LRU.run cap [] ops).2 ∧
    abs (run (new cap) ops).1 = (PGV.Spec.LRU.run cap [] ops).1 :=
  (run_new_sim cap ops).2.2

/-- Len never returns the inconsistency sentinel, and equals the number of live entries -/
theorem C09_len_never_sentinel (cap : Nat) (ops : List Op) :
    (step (run (new cap) ops).1 .len).2 = .len ((PGV.Spec.LRU.run cap [] ops).1.length) := by
  obtain ⟨I, _, _, ha⟩ := run_new_sim cap ops
  rw [(len_sim I).2.2.1, ← (inv_iff.1 I).1.abs_eq, ha]
  rfl

-- corollaries stated on the spec (= on the implementation model, by C09_refines):

/-- capacity bound and no two values for one key, after any history -/
theorem C09_bound (cap : Nat) (ops : List Op) :
    (PGV.Spec.LRU.run cap [] ops).1.length ≤ cap ∧
    ((PGV.Spec.LRU.run cap [] ops).1.map (·.1)).Nodup := by
  obtain ⟨I, hc, _, ha⟩ := run_new_sim cap ops
  obtain ⟨W, hb⟩ := inv_iff.1 I
  rw [← ha, W.abs_eq]
  exact ⟨by rw [absL, List.length_map]; exact Nat.le_trans hb (Nat.le_of_eq hc), W.absL_keys_nodup⟩

/-- a Load hits exactly the live keys and returns the value most recently stored:
    right after `store k v` (cap ≥ 1) a load of k hits v, whatever the history -/
theorem C09_latest_value (cap : Nat) (hc : 0 < cap) (ops : List Op) (k : Key) (v : Val) :
    (PGV.Spec.LRU.run cap [] (ops ++ [.store k v, .load k])).2.getLast? = some (.hit v) := by
  obtain ⟨t, ht⟩ := spec_store_head cap (PGV.Spec.LRU.run cap [] ops).1 k v hc
  rw [spec_run_append]
  simp only [Spec.LRU.run, ht, spec_load_head]
  simp

/-- a load hits iff the key is live (in the abstract map) -/
theorem C09_hit_iff (cap : Nat) (s : PGV.Spec.LRU.Sp) (k : Key) :
    (∃ v, (PGV.Spec.LRU.step cap s (.load k)).2 = .hit v) ↔ k ∈ s.map (·.1) := by
  simp only [Spec.LRU.step]
  cases hf : s.find? (·.1 == k) with
  | none => exact ⟨nofun, fun h => absurd h (find?_fst_none.1 hf)⟩
  | some x =>
    obtain ⟨rfl, hm⟩ := find?_fst_some hf
    exact ⟨fun _ => List.mem_map_of_mem (f := (·.1)) hm, fun _ => ⟨_, rfl⟩⟩

-- (`hs` is part of the intended reading -- the state is within capacity -- but the equation
-- holds without it, so the linter would flag it as unused)
set_option linter.unusedVariables false in
/-- eviction removes exactly the least recently used entry (the last of the recency list),
    fires its callback once, and happens only on overflow -/
theorem C09_evicts_least_recent (cap : Nat) (s : PGV.Spec.LRU.Sp) (hs : s.length ≤ cap)
    (k : Key) (v : Val) (hk : k ∉ s.map (·.1)) :
    PGV.Spec.LRU.step cap s (.store k v) =
      if s.length < cap then ((k, v) :: s, .cbs [])
      else (((k, v) :: s).dropLast, .cbs [((k, v) :: s).getLast (by simp)]) :=
  spec_store_new cap s k v hk

/-- callbacks account exactly for removed entries:
    |after| + |fired| = |before| + (1 if a new key was inserted) -/
theorem C09_callback_once (cap : Nat) (s : PGV.Spec.LRU.Sp) (hn : (s.map (·.1)).Nodup) (op : Op) :
    let r := PGV.Spec.LRU.step cap s op
    (match r.2 with
      | .cbs fired => r.1.length + fired.length =
          s.length + (match op with | .store k _ => if k ∈ s.map (·.1) then 0 else 1 | _ => 0)
      | _ => r.1.length = s.length) := by
  intro r
  -- the entry found under `k` is the one that `filter (·.1 != k)` removes
  have hfind : ∀ {k x}, s.find? (·.1 == k) = some x →
      (s.filter (·.1 != k)).length + 1 = s.length := fun hf =>
    length_filter_fst_ne hn
      ((find?_fst_some hf).1 ▸ List.mem_map_of_mem (f := (·.1)) (find?_fst_some hf).2)
  cases op with
  | store k v =>
    by_cases hk : k ∈ s.map (·.1)
    · simp only [r, Spec.LRU.step, any_fst.2 hk, if_true, if_pos hk]
      exact length_filter_fst_ne hn hk
    · rw [show r = _ from spec_store_new cap s k v hk]
      by_cases h : s.length < cap
      · simp only [if_pos h, if_neg hk]; rfl
      · simp only [if_neg h, if_neg hk, List.length_dropLast, List.length_cons, List.length_nil]; rfl
  | load k =>
    simp only [r, Spec.LRU.step]
    cases hf : s.find? (fun x : Key × Val => x.1 == k) with
    | none => rfl
    | some x => exact hfind hf
  | delete k =>
    simp only [r, Spec.LRU.step]
    cases hf : s.find? (fun x : Key × Val => x.1 == k) with
    | none => rfl
    | some x => exact hfind hf
  | len => exact rfl
  | dump => exact rfl

/-! ## non-vacuity: concrete runs of the implementation model and of the spec -/

/-- capacity 0: a `store` immediately evicts itself (callback fires), `load` misses, `Len` is 0 -/
example : (run (new 0) [.store 1 10, .load 1, .len, .dump]).2
    = [.cbs [(1, 10)], .miss, .len 0, .dump []] := by decide
example : (PGV.Spec.LRU.run 0 [] [.store 1 10, .load 1, .len, .dump]).2
    = [.cbs [(1, 10)], .miss, .len 0, .dump []] := by decide

/-- so `0 < cap` in `C09_latest_value` is necessary -/
example : (PGV.Spec.LRU.run 0 [] ([] ++ [.store 1 10, .load 1])).2.getLast? ≠ some (.hit 10) := by
  decide

/-- a re-store returns the latest value and does not grow the cache -/
example : (run (new 2) [.store 1 10, .store 1 11, .load 1, .len]).2
    = [.cbs [], .cbs [], .hit 11, .len 1] := by decide

/-- a `load` refreshes key 1, so the overflowing `store 3` evicts key 2 (the least recent) -/
example : (run (new 2) [.store 1 10, .store 2 20, .load 1, .store 3 30, .load 2, .load 1, .dump]).2
    = [.cbs [], .cbs [], .hit 10, .cbs [(2, 20)], .miss, .hit 10, .dump [10, 30]] := by decide
example : (PGV.Spec.LRU.run 2 [] [.store 1 10, .store 2 20, .load 1, .store 3 30, .load 2, .load 1, .dump]).2
    = [.cbs [], .cbs [], .hit 10, .cbs [(2, 20)], .miss, .hit 10, .dump [10, 30]] := by decide

/-- the abstraction of a reached state: keys recovered through the index, most recent first -/
example : abs (run (new 2) [.store 1 10, .store 2 20, .load 1, .store 3 30]).1 = [(3, 30), (1, 10)] := by
  decide

/-- explicit delete fires the callback once; deleting again fires nothing -/
example : (run (new 2) [.store 1 10, .delete 1, .delete 1, .len]).2
    = [.cbs [], .cbs [(1, 10)], .cbs [], .len 0] := by decide

/-- `Inv` is not trivially true: an index entry without a list element violates it ... -/
example : ¬ Inv ⟨1, [(7, 0)], [], 1, 0⟩ := fun h => by
  have := (h.same_ids 0).1 (by decide)
  simp at this

/-- ... and in such a state `Len` does return the sentinel, so `C09_len_never_sentinel` says
something -/
example : (step ⟨1, [(7, 0)], [], 1, 0⟩ .len).2 = .len (-1) := by decide

/-- the hypotheses of `C09_evicts_least_recent` are satisfiable, in both branches -/
example : PGV.Spec.LRU.step 2 [(2, 20), (1, 10)] (.store 3 30) = ([(3, 30), (2, 20)], .cbs [(1, 10)]) := by
  decide
example : PGV.Spec.LRU.step 3 [(2, 20), (1, 10)] (.store 3 30) = ([(3, 30), (2, 20), (1, 10)], .cbs []) := by
  decide

end PGV.Props.C09
