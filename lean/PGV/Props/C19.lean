import PGV.Proofs.Inject

/-!
# C19 — the injector never damages what it cannot process  (crash-freedom: partial)
-/

namespace PGV.Props.C19
open PGV PGV.Model PGV.Model.Inject PGV.Spec.Inject PGV.Proofs.Inject

/-- a file that is not a `.go` file is left byte-identical -/
theorem C19_non_go_untouched (f : FileIn) (h : Bytes.hasSuffix f.name (b! ".go") = false) :
    handleFile f = .ok f.contents := by simp [handleFile, h]; rfl

/-- a file that does not parse is left byte-identical (nothing is written) -/
theorem C19_parse_failure_untouched (f : FileIn) (h : f.ast = none) : handleFile f = .ok f.contents := by
  unfold handleFile
  split
  · rfl
  · rw [h]; rfl

/-- a field without a tag literal yields no area, whatever its comments say -/
theorem C19_no_tag_literal (f : FieldInfo) (h : f.tag = none) : fieldAreas f = [] := by
  unfold fieldAreas
  rw [List.filterMap_eq_nil_iff]
  intro c _
  simp only [h]
  split <;> rfl

/-- a comment that does not contain `@tag ` yields no area -/
theorem C19_mention_only (c : Bytes) (h : Bytes.indexOf? (b! "@tag ") c = none) : tagFromComment c = [] := by
  simp [tagFromComment, h]

/-- only the first type spec of a declaration is looked at, and only if it is a struct type:
functions, imports, constants, variables and non-struct types yield no area -/
theorem C19_other_decls (ds : List DeclInfo)
    (h : ∀ d ∈ ds, match d with
      | .func => True
      | .gen specs => ∀ s ∈ specs, match s with | .structType _ => False | _ => True) :
    parseAreas ⟨ds⟩ = [] := by
  unfold parseAreas
  rw [List.flatMap_eq_nil_iff]
  intro d hd
  have hd' := h d hd
  cases d with
  | func => rfl
  | gen specs =>
    simp only at hd' ⊢
    cases hf : specs.find? (fun s => match s with | .notType => false | _ => true) with
    | none => rfl
    | some s =>
      have hmem := List.mem_of_find?_eq_some hf
      have := hd' s hmem
      cases s <;> simp_all

/-- on a well-formed file the writer does not panic (it returns the specified file) -/
theorem C19_no_panic (cs : List Chunk) (areas : List Area) (hm : AreasMatch 0 cs areas) :
    ∃ out, writeFile (render cs) areas = .ok out :=
  ⟨_, writeFile_chunks cs areas hm⟩

/-- directory / glob mode: as long as no file makes the tool panic, every file is processed on its
own — the outcome for one file does not depend on the others -/
theorem C19_dir_independent (fs : List FileIn) (h : ∀ f ∈ fs, ∃ out, handleFile f = .ok out) :
    handleFiles fs = fs.map handleFile := by
  induction fs with
  | nil => rfl
  | cons f rest ih =>
    obtain ⟨out, ho⟩ := h f (by simp)
    simp only [handleFiles, ho, List.map_cons]
    rw [ih (fun g hg => h g (by simp [hg]))]

end PGV.Props.C19
