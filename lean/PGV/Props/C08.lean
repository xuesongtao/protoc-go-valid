import PGV.Model.Cache

/-!
# C08 — the struct-type cache is transparent

For *every* sound cache (default LRU, LRU of any capacity, unbounded map, a cache that forgets
everything, …), every validation call — any number of type lookups, in any order — and every
history of calls: each call returns exactly what it returns without a cache.  The cache key is
(type, target tag), so the rules are always those of the tag name the call asks for.
-/

namespace PGV.Props.C08
open PGV.Model.Cache

variable {κ ν ρ : Type}

/-- everything the cache holds is what analysing that key gives -/
def Coherent (C : CacheImpl κ ν) (S : Sound C) (analyse : κ → ν) (s : C.σ) : Prop :=
  ∀ k v, S.Held s k v → v = analyse k

theorem getST_coherent (C : CacheImpl κ ν) (S : Sound C) (analyse : κ → ν) (s : C.σ) (k : κ)
    (h : Coherent C S analyse s) :
    (getST C analyse s k).1 = analyse k ∧ Coherent C S analyse (getST C analyse s k).2 := by
  unfold getST
  rcases hl : C.load s k with ⟨r, s'⟩
  have hframe : Coherent C S analyse s' := fun k' v' hv => h k' v' (S.load_frame s k r s' k' v' hl hv)
  cases r with
  | some v =>
    exact ⟨h k v (S.load_sound s k v s' hl), hframe⟩
  | none =>
    refine ⟨by simp, ?_⟩
    show Coherent C S analyse (C.store s' k (analyse k))
    intro k' v' hv
    rcases S.store_frame s' k (analyse k) k' v' hv with ⟨rfl, rfl⟩ | hold
    · rfl
    · exact hframe k' v' hold

/-- one call: with a coherent cache the result is the cache-free result, and the cache stays coherent
(what the call stores is `(k, analyse k)`) -/
theorem C08_call_transparent (C : CacheImpl κ ν) (S : Sound C) (analyse : κ → ν) (p : Prog κ ν ρ) (s : C.σ)
    (h : Coherent C S analyse s) :
    (p.runC C analyse s).1 = p.runPure analyse ∧ Coherent C S analyse (p.runC C analyse s).2 := by
  induction p generalizing s with
  | done r => exact ⟨rfl, h⟩
  | lookup k cont ih =>
    obtain ⟨hv, hc⟩ := getST_coherent C S analyse s k h
    simp only [Prog.runC, Prog.runPure]
    rcases hg : getST C analyse s k with ⟨v, s'⟩
    rw [hg] at hv hc
    simp only at hv hc ⊢
    subst hv
    exact ih (analyse k) s' hc

/-- every history, from any coherent state: every call returns its cache-free result -/
theorem C08_history_from (C : CacheImpl κ ν) (S : Sound C) (analyse : κ → ν) (ps : List (Prog κ ν ρ)) (s : C.σ)
    (h : Coherent C S analyse s) :
    (runHistory C analyse ps s).1 = ps.map (Prog.runPure analyse) := by
  induction ps generalizing s with
  | nil => rfl
  | cons p ps ih =>
    obtain ⟨hr, hc⟩ := C08_call_transparent C S analyse p s h
    simp only [runHistory, List.map_cons]
    rcases hp : p.runC C analyse s with ⟨r, s'⟩
    rw [hp] at hr hc
    simp only at hr hc
    have := ih s' hc
    rcases hh : runHistory C analyse ps s' with ⟨rs, s''⟩
    rw [hh] at this
    simp only at this ⊢
    rw [hr, this]

/-- **transparency**: every history of calls from process start, for every sound cache -/
theorem C08_history (C : CacheImpl κ ν) (S : Sound C) (analyse : κ → ν) (ps : List (Prog κ ν ρ)) :
    (runHistory C analyse ps C.init).1 = ps.map (Prog.runPure analyse) :=
  C08_history_from C S analyse ps C.init (fun k v hv => absurd hv (S.init k v))

/-- the result of a call does not depend on which (sound) cache is installed -/
theorem C08_cache_independent (C₁ C₂ : CacheImpl κ ν) (S₁ : Sound C₁) (S₂ : Sound C₂) (analyse : κ → ν)
    (ps : List (Prog κ ν ρ)) :
    (runHistory C₁ analyse ps C₁.init).1 = (runHistory C₂ analyse ps C₂.init).1 := by
  rw [C08_history C₁ S₁, C08_history C₂ S₂]

/-! ### the caches the property names are sound -/

def missSound : Sound (missCache κ ν) :=
  { Held := fun _ _ _ => False
    init := fun _ _ h => h
    load_sound := by intro s k v s' h; cases h
    load_frame := by intro s k r s' k' v' _ h; exact h
    store_frame := by intro s k v k' v' h; exact absurd h id }

def mapSound [DecidableEq κ] : Sound (mapCache κ ν) :=
  { Held := fun (s : List (κ × ν)) k v => (k, v) ∈ s,
    init := by intro k v h; exact absurd h (by simp [mapCache]),
    load_sound := by
      intro (s : List (κ × ν)) k v s' h
      have h1 : (s.find? (·.1 == k)).map (·.2) = some v := (Prod.mk.inj h).1
      rw [Option.map_eq_some_iff] at h1
      obtain ⟨⟨k0, v0⟩, hf, hv⟩ := h1
      have hm := List.mem_of_find?_eq_some hf
      have hk := List.find?_some hf
      simp at hk hv; subst hk hv; exact hm
    load_frame := by
      intro (s : List (κ × ν)) k r s' k' v' h hv
      have h2 : s = s' := (Prod.mk.inj h).2
      subst h2; exact hv
    store_frame := by
      intro (s : List (κ × ν)) k v k' v' h
      have h' : (k', v') ∈ (k, v) :: s.filter (·.1 != k) := h
      simp only [List.mem_cons, Prod.mk.injEq, List.mem_filter] at h'
      rcases h' with h' | h'
      · left; exact h'
      · right; exact h'.1 }

theorem lru_load_eq (cap : Nat) (s : PGV.Spec.LRU.Sp) (k : Nat) :
    (lruCache cap).load s k = (match s.find? (·.1 == k) with
      | some (_, v) => (some v, (k, v) :: s.filter (·.1 != k))
      | none => (none, s)) := by
  show (match PGV.Spec.LRU.step cap s (.load k) with
      | (s', .hit v) => (some v, s')
      | (s', _) => (none, s')) = _
  simp only [PGV.Spec.LRU.step]
  cases s.find? (·.1 == k) with
  | none => rfl
  | some p => rcases p with ⟨k0, v0⟩; rfl

/-- the bounded LRU of every capacity (incl. 0): what `Load` returns was stored under that key -/
def lruSound (cap : Nat) : Sound (lruCache cap) :=
  { Held := fun (s : PGV.Spec.LRU.Sp) k v => (k, v) ∈ s,
    init := by intro k v h; exact absurd h (by simp [lruCache]),
    load_sound := by
      intro (s : PGV.Spec.LRU.Sp) k v s' h
      rw [lru_load_eq] at h
      cases hf : s.find? (·.1 == k) with
      | none => rw [hf] at h; cases h
      | some p =>
        rcases p with ⟨k0, v0⟩
        rw [hf] at h
        have hv : v0 = v := by have := (Prod.mk.inj h).1; simpa using this
        have hm := List.mem_of_find?_eq_some hf
        have hk := List.find?_some hf
        simp at hk; subst hk hv; exact hm
    load_frame := by
      intro (s : PGV.Spec.LRU.Sp) k r s' k' v' h hv
      rw [lru_load_eq] at h
      cases hf : s.find? (·.1 == k) with
      | none =>
        rw [hf] at h
        have : s = s' := (Prod.mk.inj h).2
        subst this; exact hv
      | some p =>
        rcases p with ⟨k0, v0⟩
        rw [hf] at h
        have hs : (k, v0) :: s.filter (·.1 != k) = s' := (Prod.mk.inj h).2
        have hv' : (k', v') ∈ (k, v0) :: s.filter (·.1 != k) := by rw [hs]; exact hv
        simp only [List.mem_cons, Prod.mk.injEq, List.mem_filter] at hv'
        rcases hv' with ⟨rfl, rfl⟩ | hv'
        · have hm := List.mem_of_find?_eq_some hf
          have hk := List.find?_some hf
          simp at hk; subst hk; exact hm
        · exact hv'.1
    store_frame := by
      intro (s : PGV.Spec.LRU.Sp) k v k' v' h
      have h' : (k', v') ∈ (PGV.Spec.LRU.step cap s (.store k v)).1 := h
      simp only [PGV.Spec.LRU.step] at h'
      split at h'
      · simp only [List.mem_cons, Prod.mk.injEq, List.mem_filter] at h'
        rcases h' with h' | h'
        · left; exact h'
        · right; exact h'.1
      · split at h'
        · have := List.dropLast_subset _ h'
          simp only [List.mem_cons, Prod.mk.injEq] at this
          rcases this with h'' | h''
          · left; exact h''
          · right; exact h''
        · simp only [List.mem_cons, Prod.mk.injEq] at h'
          rcases h' with h'' | h''
          · left; exact h''
          · right; exact h'' }

/-- non-vacuity: capacity 1, three types, the first one is evicted and analysed again -/
example :
    let p (k : Nat) : Prog Nat Nat Nat := .lookup k fun v => .done v
    (runHistory (lruCache 1) (fun k => 10 * k) [p 1, p 2, p 1, p 1] (lruCache 1).init).1 = [10, 20, 10, 10] := by decide +kernel

end PGV.Props.C08
