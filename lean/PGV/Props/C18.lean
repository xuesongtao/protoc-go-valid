import PGV.Props.C01
import PGV.Proofs.Walker
import PGV.Proofs.Indep

/-!
# C18 — same rule, same value, same verdict through every entry point

* every walker hands a non-empty value to the *same* function — the one the rule name resolves to —
  with the same rule text and value; only the names used in the clause differ
  (`C18_struct_dispatch`, `C18_flat_dispatch`);
* for the size rules the verdict of that function does not depend on those names at all
  (`C18_size_verdict_carrier_indep`, from C01);
* a URL parameter value survives percent-encoding: `QueryUnescape (QueryEscape s) = s` for every byte
  string (`C18_query_roundtrip`).
-/

namespace PGV.Props.C18
open PGV PGV.Model PGV.Proofs.Walker PGV.Spec.Size PGV.Props.C01

theorem C18_struct_dispatch (ext : Ext) (fns : FnTables) (scope sn fname : Bytes) (v : GoVal)
    (descend : Bool → Bool → Bytes → WSt → M WSt) (r : Bytes) (run) (rs : List Bytes) (d : Bool) (st : WSt)
    (hr : r ≠ []) (hk : resolveFn fns (parseValidNameKV r).1 = .builtin run) (hz : v.isZero = false) :
    fieldRules ext fns scope sn fname v descend (r :: rs) d st
      = (run ext r sn fname v >>= fun t => fieldRules ext fns scope sn fname v descend rs d (st.write t)) :=
  fieldRules_builtin ext fns scope sn fname v descend r run rs d st hr hk hz

theorem C18_flat_dispatch (c : FlatCfg) (scope ne nc : Bytes) (v : GoVal) (r : Bytes) (run)
    (rs : List Bytes) (st : WSt) (hr : r ≠ []) (hk : resolveFn c.fns (parseValidNameKV r).1 = .builtin run)
    (hz : c.isEmpty v = false) :
    flatRules c scope ne nc v (r :: rs) st
      = (run c.ext r [] nc v >>= fun t => flatRules c scope ne nc v rs (st.write t)) :=
  flatRules_builtin c scope ne nc v r run rs st hr hk hz

/-- size rules: whatever object / field names the carrier uses (`T.F`, `map[k]`, `k`, none), the
verdict is the same function of (rule, value) -/
theorem C18_size_verdict_carrier_indep (ext : Ext) (text obj₁ field₁ obj₂ field₂ : Bytes) (v : GoVal)
    (r : SizeRule) (lo hi : Int) (m : Measure)
    (hk : SizeRule.ofKey (parseValidNameKV text).1 = some r)
    (hb : parseBounds r (parseValidNameKV text).2.1 = some (lo, hi))
    (hm : Spec.Size.measure v = some m) (hx : boundsExact v lo hi = true) :
    ∃ run, builtin (parseValidNameKV text).1 = some (.fn run) ∧
      Judged (run ext text obj₁ field₁ v) (inSet r lo hi m = false) ∧
      Judged (run ext text obj₂ field₂ v) (inSet r lo hi m = false) := by
  obtain ⟨run, h1, j1⟩ := C01_verdict ext text obj₁ field₁ v r lo hi m hk hb hm hx
  obtain ⟨run', h2, j2⟩ := C01_verdict ext text obj₂ field₂ v r lo hi m hk hb hm hx
  rw [h1] at h2; cases h2
  exact ⟨run, h1, j1, j2⟩

/-- **every rule of the table**: run on the same rule text and value, the function writes a clause under
one carrier's names (`T.F`, `map[k]`, `k`, none) exactly when it writes one under another's, and asks
the same residual question otherwise — the verdict is a function of (rule, value) alone -/
theorem C18_verdict_carrier_indep (key : Bytes) (run) (h : builtin key = some (.fn run))
    (e : Ext) (text obj₁ field₁ obj₂ field₂ : Bytes) (v : GoVal) :
    PGV.Proofs.Indep.Sim (run e text obj₁ field₁ v) (run e text obj₂ field₂ v) :=
  PGV.Proofs.Indep.Sim_builtin h e text obj₁ field₁ obj₂ field₂ v

/-! ### percent-encoding -/

def hexUpper (n : Nat) : UInt8 := if n < 10 then UInt8.ofNat (48 + n) else UInt8.ofNat (55 + n)

/-- `url.QueryEscape`: unreserved bytes `A-Z a-z 0-9 - _ . ~` are kept, space becomes `+`,
everything else `%XX` (upper-case hex) -/
def shouldKeep (c : UInt8) : Bool :=
  (65 ≤ c && c ≤ 90) || (97 ≤ c && c ≤ 122) || (48 ≤ c && c ≤ 57) || c == 45 || c == 95 || c == 46 || c == 126

def queryEscape : Bytes → Bytes
  | [] => []
  | c :: rest =>
    if c == 32 then 43 :: queryEscape rest
    else if shouldKeep c then c :: queryEscape rest
    else 37 :: hexUpper (c.toNat / 16) :: hexUpper (c.toNat % 16) :: queryEscape rest

theorem hexNibble_hexUpper (n : Nat) (h : n < 16) : hexNibble? (hexUpper n) = some n := by
  revert n; decide

theorem queryUnescape_plain (c : UInt8) (t : Bytes) (h37 : c ≠ 37) (h43 : c ≠ 43) :
    queryUnescape (c :: t) = (queryUnescape t).map (c :: ·) := by
  generalize hq : queryUnescape t = q
  unfold queryUnescape
  split
  · rename_i heq; cases heq
  · rename_i heq; injection heq with h _; exact absurd h h37
  · rename_i heq; injection heq with h _; exact absurd h h37
  · rename_i heq; injection heq with h _; exact absurd h h43
  · rename_i heq; injection heq with h1 h2; subst h1 h2; rw [hq]

theorem queryUnescape_pct (h l : UInt8) (t : Bytes) (x y : Nat) (hx : hexNibble? h = some x) (hy : hexNibble? l = some y) :
    queryUnescape (37 :: h :: l :: t) = (queryUnescape t).map (UInt8.ofNat (x * 16 + y) :: ·) := by
  rw [queryUnescape]; simp [hx, hy]

theorem queryUnescape_plus (t : Bytes) : queryUnescape (43 :: t) = (queryUnescape t).map (SP :: ·) := by
  rw [queryUnescape]

/-- `QueryUnescape (QueryEscape s) = s` for every byte string -/
theorem C18_query_roundtrip (s : Bytes) : queryUnescape (queryEscape s) = some s := by
  induction s with
  | nil => rfl
  | cons c rest ih =>
    unfold queryEscape
    by_cases h1 : (c == 32) = true
    · rw [if_pos h1]
      have : c = 32 := by simpa using h1
      subst this
      rw [queryUnescape_plus, ih]; rfl
    · rw [if_neg h1]
      by_cases h2 : shouldKeep c = true
      · rw [if_pos h2]
        have hne : c ≠ 37 ∧ c ≠ 43 := by
          constructor <;> rintro rfl <;> exact absurd h2 (by decide)
        rw [queryUnescape_plain c _ hne.1 hne.2, ih]; rfl
      · rw [if_neg h2]
        have hlt1 : c.toNat / 16 < 16 := by have := UInt8.toNat_lt c; omega
        have hlt2 : c.toNat % 16 < 16 := by omega
        rw [queryUnescape_pct _ _ _ _ _ (hexNibble_hexUpper _ hlt1) (hexNibble_hexUpper _ hlt2), ih]
        have : c.toNat / 16 * 16 + c.toNat % 16 = c.toNat := by omega
        rw [this]; simp

end PGV.Props.C18
