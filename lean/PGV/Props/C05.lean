import PGV.Spec.Lang
import PGV.Props.Facts.Patterns
import PGV.Proofs.LangEq
import PGV.Proofs.Size
import PGV.Proofs.EmailEq
import PGV.Proofs.Accepts
import PGV.Proofs.AcceptsDate

/-!
# C05 — format and content rules accept exactly their documented language

Three layers:
1. `T2_patterns` (re-decided on every run): the regular expressions in the source are, up to
   `regexp/syntax` normalisation, the ones the model's recognisers transcribe.
2. The theorems below: for *every* byte string the model's recognisers agree with the independent
   recognisers of `Spec.Lang` (phone, idcard, int, float, email), the layout builder produces exactly the
   interleaving of components and separators (all separators), and the content rules `unique`,
   `prefix`, `suffix` decide what the documentation says.
3. The `lang` stream: members, single-rune edits of members and random strings through every entry
   point; the implementation's verdict is judged against `Spec.Lang` (also for dates with custom
   separators, in / include / ints), its text against the model.  `net.ParseIP`, `json.Valid`,
   `regexp` on user patterns and `os.Stat` are residuals answered by the standard library.
4. The date rules: `time.Parse` + `Format` is transcribed (`Model/TimeParse.lean`: layout scanner,
   literal text with runs of blanks, the six numeric layout elements, day-of-month validation, the two
   fast paths of `appendInt`) and proved equal to the independent readings `Spec.Lang.year / year2month /
   date / datetime` for every string and every separator of `sepOK` (`C05_year` … `C05_datetime`); layouts
   with any other element stay a residual.
-/

namespace PGV.Props.C05
open PGV PGV.Model PGV.Spec.Lang

/-- `^\d+$` -/
theorem C05_int (s : Bytes) : Model.Lang.intRe s = Spec.Lang.int s := PGV.Proofs.LangEq.int_eq s

/-- `^1[3-9]\d{9}$`: 11 digits, first `1`, second in `3…9` -/
theorem C05_phone (s : Bytes) : Model.Lang.phoneRe s = phone s := PGV.Proofs.LangEq.phone_eq s

/-- `^\d+\.\d+$`: digits, exactly one `.`, digits — for every byte string (the historical defect was an unescaped dot) -/
theorem C05_float (s : Bytes) : Model.Lang.floatRe s = Spec.Lang.float s := PGV.Proofs.LangEq.float_eq s

/-- `(^\d{15}$)|(^\d{18}$)|(^\d{17}(\d|X|x)$)` -/
theorem C05_idcard (s : Bytes) : Model.Lang.idCardRe s = idcard s := PGV.Proofs.LangEq.idcard_eq s

/-- `^\w+([-+.]\w+)*@\w+([-.]\w+)*\.\w+([-.]\w+)*$`: exactly one `@`; the local part is words joined by
single `-`, `+` or `.`; the domain is words joined by single `-` or `.` with at least one `.` — for
every byte string -/
theorem C05_email (s : Bytes) : Model.Lang.emailRe s = Spec.Lang.email s := PGV.Proofs.EmailEq.email_eq s

/-! ### verdicts of the registered rule functions on strings

"violated exactly when the value lies outside the language": the function registered under the
rule name writes a clause for a string `s` iff the independent recogniser of `Spec.Lang` rejects `s`
— for every rule text (custom message or not), object, field and string. -/

theorem C05_verdict_phone (ext : Ext) (text obj field s : Bytes) :
    ∃ run, builtin (b! "phone") = some (.fn run) ∧
      ∃ out, run ext text obj field (.str s) = .ok out ∧ (out ≠ [] ↔ phone s = false) :=
  ⟨_, rfl, PGV.Proofs.Accepts.phone_verdict text obj field s⟩

theorem C05_verdict_email (ext : Ext) (text obj field s : Bytes) :
    ∃ run, builtin (b! "email") = some (.fn run) ∧
      ∃ out, run ext text obj field (.str s) = .ok out ∧ (out ≠ [] ↔ Spec.Lang.email s = false) :=
  ⟨_, rfl, PGV.Proofs.Accepts.email_verdict text obj field s⟩

theorem C05_verdict_idcard (ext : Ext) (text obj field s : Bytes) :
    ∃ run, builtin (b! "idcard") = some (.fn run) ∧
      ∃ out, run ext text obj field (.str s) = .ok out ∧ (out ≠ [] ↔ idcard s = false) :=
  ⟨_, rfl, PGV.Proofs.Accepts.idcard_verdict text obj field s⟩

theorem C05_verdict_int (ext : Ext) (text obj field s : Bytes) :
    ∃ run, builtin (b! "int") = some (.fn run) ∧
      ∃ out, run ext text obj field (.str s) = .ok out ∧ (out ≠ [] ↔ Spec.Lang.int s = false) :=
  ⟨_, rfl, PGV.Proofs.Accepts.int_verdict ext text obj field s⟩

theorem C05_verdict_float (ext : Ext) (text obj field s : Bytes) :
    ∃ run, builtin (b! "float") = some (.fn run) ∧
      ∃ out, run ext text obj field (.str s) = .ok out ∧ (out ≠ [] ↔ Spec.Lang.float s = false) :=
  ⟨_, rfl, PGV.Proofs.Accepts.float_verdict ext text obj field s⟩

/-! ### the whole table of rules that need no residual: model verdict = `Spec.Lang.accepts`

`Spec.Lang.accepts text s` is what the driver evaluates on every probe of the `lang` stream against
the implementation.  For rule texts of the documented shape `key[=arg][|message]` (`mkText`) and
every string, the function registered under the key writes a clause exactly when `accepts` says the
string is outside the language — `in` / `include` with their quote-protected options (the splitter's
refinement of the quote-aware pieces), `ints` with default or custom separator (`strings.Split` with
a skip counter = the direct recursion), `unique`, `prefix`, `suffix` and the five patterns. -/

def pureKeys : List Bytes :=
  [b! "phone", b! "email", b! "idcard", b! "int", b! "float", b! "in", b! "include", b! "ints", b! "unique", b! "prefix", b! "suffix",
   b! "year", b! "year2month", b! "date", b! "datetime"]

/-- every key of the table is a word: no `=`, no `|` -/
theorem pureKeys_word : ∀ k ∈ pureKeys, k.all Spec.Lang.wordc = true := by decide +kernel

theorem C05_accepts_sound (ext : Ext) (obj field s key arg msg : Bytes) (b : Bool)
    (hk : key ∈ pureKeys) (hb : BAR ∉ arg)
    (h : accepts (mkText key arg msg) s = some b) :
    ∃ run, builtin key = some (.fn run) ∧
      PGV.Proofs.Accepts.Verdict (run ext (mkText key arg msg) obj field (.str s)) b := by
  open PGV.Proofs.Accepts in
  have hw := pureKeys_word key hk
  have hs : Shape key arg :=
    ⟨PGV.Proofs.LangEq.not_mem_of_all _ _ _ hw (by decide), PGV.Proofs.LangEq.not_mem_of_all _ _ _ hw (by decide), hb⟩
  exact PGV.Proofs.AcceptsDate.accepts_sound ext _ obj field s key arg _ b (ruleParts_mkText _ arg msg hs)
    (parse_mkText key arg msg hs) h

/-! ### the date rules: `time.Parse` + `Format` back = the documented language

`parseTimeStrict(layout, s)` of the model (`TimeParse.parseStrict`, the transcription of the standard
library's parser and formatter) on the layouts `GetTimeFmt` builds, for EVERY string `s` and every
separator made of `- / . : blank + _ , #` (`sepOK`), any length incl. empty: four digits; four digits,
separator, month 01–12; …, day valid for that month and year (leap years); …, hour 00–23, minute and
second 00–59.  No residual is involved. -/

theorem C05_year (s : Bytes) : TimeParse.parseStrict (getTimeFmt 1 []) s = some (Spec.Lang.year s) :=
  PGV.Proofs.AcceptsDate.strict_year s

theorem C05_year2month (sep s : Bytes) (h : sepOK sep = true) :
    TimeParse.parseStrict (getTimeFmt 3 [sep]) s = some (Spec.Lang.year2month sep s) :=
  PGV.Proofs.AcceptsDate.strict_y2m sep s h

theorem C05_date (sep s : Bytes) (h : sepOK sep = true) :
    TimeParse.parseStrict (getTimeFmt 7 [sep]) s = some (Spec.Lang.date sep s) :=
  PGV.Proofs.AcceptsDate.strict_date sep s h

theorem C05_datetime (d t c s : Bytes) (hd : sepOK d = true) (ht : sepOK t = true) (hc : sepOK c = true) :
    TimeParse.parseStrict (getTimeFmt 63 [d, t, c]) s = some (Spec.Lang.datetime d t c s) :=
  PGV.Proofs.AcceptsDate.strict_datetime d t c s hd ht hc

/-- the scanner of layouts: a separator of `sepOK` bytes in front of a two-digit element is literal text -/
theorem C05_layout_scan (sep : Bytes) (h : sepOK sep = true) (rest : Bytes) :
    TimeParse.nextStd [] (sep ++ [48, 50] ++ rest) = .std sep .zeroDay rest := by
  simpa [PGV.Proofs.TimeParse.stdText] using PGV.Proofs.TimeParse.nextStd_sep [] sep h .zeroDay (by decide) rest

-- non-vacuity: real calls, evaluated by the kernel
example : TimeParse.parseStrict (getTimeFmt 7 [[45]]) (b! "2024-02-29") = some true := by decide +kernel
example : TimeParse.parseStrict (getTimeFmt 7 [[45]]) (b! "2023-02-29") = some false := by decide +kernel
example : TimeParse.parseStrict (getTimeFmt 63 [[45], [32], [58]]) (b! "2022-11-09  4:00:00") = some false := by decide +kernel
example : TimeParse.parseStrict (getTimeFmt 63 [[45], [32], [58]]) (b! "2022-11-09 04:00:00") = some true := by decide +kernel
example : TimeParse.parseStrict (getTimeFmt 63 [[45], [32], [58]]) (b! "2022-11-09 04:00:00.5") = some false := by decide +kernel
example : TimeParse.parseStrict (b! "2006-01-02 PM") (b! "2022-11-09 PM") = none := by decide +kernel

/-- `in` compares numbers (and bools) by their canonical rendering: for every value that `ToStr`
renders — integers of any width in decimal, floats by their shortest round-trip text, bools as
words — a clause is written exactly when that rendering is not among the options -/
theorem C05_in_canonical_rendering (ext : Ext) (obj field arg msg : Bytes) (hb : BAR ∉ arg)
    (os : List Bytes) (ho : options arg = some os) (tv : GoVal) (t : Bytes) (hts : tv.toStr = some t) :
    ∃ run, builtin (b! "in") = some (.fn run) ∧
      PGV.Proofs.Accepts.Verdict (run ext (mkText (b! "in") arg msg) obj field tv) (os.contains t) :=
  ⟨_, rfl, PGV.Proofs.Accepts.in_verdict ext _ obj field _ arg _
    (PGV.Proofs.Accepts.parse_mkText _ arg msg ⟨by decide, by decide, hb⟩) (by decide) os ho tv t hts⟩

example : options (b! "(5/7/'0.1')") = some [b! "5", b! "7", b! "0.1"]
    ∧ (GoVal.int 8 5).toStr = some (b! "5") ∧ (GoVal.uint 64 7).toStr = some (b! "7")
    ∧ (GoVal.float 32 (.fin 13421773 (-27)) (b! "0.10000000149011612") (b! "0.1")).toStr = some (b! "0.1") := by decide +kernel

/-- `unique` on a slice of numbers / strings / bools compares the canonical renderings: violated exactly
when two of them coincide (`[]float64{0.1, 0.10}` is a duplicate, `[]string{"1", "01"}` is not) -/
theorem C05_unique_canonical_rendering (ext : Ext) (text obj field tstr elemT : Bytes) (isNil : Bool) (es : GoVals)
    (ts : List Bytes) (h : es.toList.mapM GoVal.toStr = some ts) :
    ∃ run, builtin (b! "unique") = some (.fn run) ∧
      PGV.Proofs.Accepts.Verdict (run ext text obj field (.slice tstr elemT isNil es)) (distinct ts) :=
  ⟨_, rfl, PGV.Proofs.Accepts.unique_verdict_slice ext text obj field tstr elemT isNil es ts h⟩

/-- `ints` on a slice: violated exactly when some element's rendering is not a run of digits
(negative numbers, floats with a fraction, empty strings) -/
theorem C05_ints_slice (ext : Ext) (text obj field tstr elemT : Bytes) (isNil : Bool) (es : GoVals)
    (ts : List Bytes) (h : es.toList.mapM GoVal.toStr = some ts) :
    ∃ run, builtin (b! "ints") = some (.fn run) ∧
      PGV.Proofs.Accepts.Verdict (run ext text obj field (.slice tstr elemT isNil es)) (ts.all Spec.Lang.int) :=
  ⟨_, rfl, PGV.Proofs.Accepts.ints_verdict_slice ext text obj field tstr elemT isNil es ts h⟩

-- slices whose elements all have a rendering: `[]float64{0.1, 0.1}` (duplicate), `[]int{1, -2}` (not all digits)
example :
    let dup : GoVals := .cons (.float 64 (.fin 3602879701896397 (-55)) (b! "0.1") (b! "0.1")) (.cons (.float 64 (.fin 3602879701896397 (-55)) (b! "0.1") (b! "0.1")) .nil)
    let mixed : GoVals := .cons (.int 0 1) (.cons (.int 0 (-2)) .nil)
    dup.toList.mapM GoVal.toStr = some [b! "0.1", b! "0.1"] ∧ distinct [b! "0.1", b! "0.1"] = false
      ∧ mixed.toList.mapM GoVal.toStr = some [b! "1", b! "-2"] ∧ [b! "1", b! "-2"].all Spec.Lang.int = false := by decide +kernel

-- the hypothesis is satisfiable, with quoted options and a custom separator
example : accepts (mkText (b! "in") (b! "(a/'b/c'/d)") (b! "one of them")) (b! "b/c") = some true
    ∧ accepts (mkText (b! "in") (b! "(a/'b/c'/d)") []) (b! "b") = some false
    ∧ accepts (mkText (b! "ints") (b! "'--'") []) (b! "1--22--333") = some true
    ∧ accepts (mkText (b! "ints") [] []) (b! "1,,2") = some false
    ∧ mkText (b! "in") (b! "(a/'b/c'/d)") (b! "one of them") = b! "in=(a/'b/c'/d)|one of them" := by decide +kernel

/-! ### the layout builder `GetTimeFmt` -/

/-- `year`: `2006` -/
theorem C05_timefmt_year : getTimeFmt 1 [] = b! "2006" := by decide +kernel

/-- `year2month`: year, separator, month — for every separator (also empty, also several bytes) -/
theorem C05_timefmt_year2month (sep : Bytes) : getTimeFmt 3 [sep] = b! "2006" ++ sep ++ b! "01" :=
  PGV.Proofs.AcceptsDate.fmt_y2m sep

/-- `date`: year, separator, month, the same separator, day -/
theorem C05_timefmt_date (sep : Bytes) : getTimeFmt 7 [sep] = b! "2006" ++ sep ++ b! "01" ++ sep ++ b! "02" :=
  PGV.Proofs.AcceptsDate.fmt_date sep

/-- `datetime`: date separator `d` twice, `t` between date and time, time separator `c` twice -/
theorem C05_timefmt_datetime (d t c : Bytes) :
    getTimeFmt 63 [d, t, c] = b! "2006" ++ d ++ b! "01" ++ d ++ b! "02" ++ t ++ b! "15" ++ c ++ b! "04" ++ c ++ b! "05" :=
  PGV.Proofs.AcceptsDate.fmt_datetime d t c

/-- the date rules hand exactly that layout, with the separator taken from the rule (quotes removed,
default `-`), to the strict parser; a string value is accepted iff the parser accepts it -/
theorem C05_date_uses_layout (ext : Ext) (text obj field s : Bytes) (a : ExtA)
    (hn : TimeParse.parseStrict (getTimeFmt 7 [if (parseValidNameKV text).2.1.isEmpty then [45] else Bytes.trimByte QUOTE (parseValidNameKV text).2.1]) s = none)
    (hq : ext (.timeparse (getTimeFmt 7 [if (parseValidNameKV text).2.1.isEmpty then [45] else Bytes.trimByte QUOTE (parseValidNameKV text).2.1]) s) = some a) :
    ∃ out, ruleDate ext text obj field (.str s) = .ok out ∧ (out = [] ↔ a.code = 1) := by
  rcases hp : parseValidNameKV text with ⟨k, v, m⟩
  rw [hp] at hq hn
  simp only at hq hn
  have ht : timeOk ext (getTimeFmt 7 [if v.isEmpty then [45] else Bytes.trimByte QUOTE v]) s = pure (a.code == 1) := by
    simp only [timeOk, hn, askExt, hq]; rfl
  simp only [ruleDate, hp]
  obtain ⟨out, ho, hiff⟩ := (PGV.Proofs.Accepts.strRule_verdict text obj field s _ _ _ ht).nil_iff
  exact ⟨out, ho, by rw [hiff, beq_iff_eq]⟩

/-! ### content rules -/

theorem C05_unique_string (ext : Ext) (text obj field s : Bytes) :
    ∃ out, ruleUnique ext text obj field (.str s) = .ok out ∧ (out = [] ↔ allDistinct (Bytes.splitByte COMMA s) = true) :=
  (PGV.Proofs.Accepts.unique_verdict ext text obj field s).nil_iff

theorem allDistinct_eq_distinct (l : List Bytes) : allDistinct l = distinct l :=
  PGV.Proofs.Accepts.allDistinct_eq_distinct l

/-- `prefix=p` / `suffix=p`: `strings.HasPrefix` / `HasSuffix` on the value -/
theorem C05_prefix_suffix (text obj field s : Bytes) (isPre : Bool) :
    ∃ out, rulePrefix text obj field (.str s) isPre = .ok out ∧
      (out = [] ↔ (if isPre then (parseValidNameKV text).2.1.isPrefixOf s else (parseValidNameKV text).2.1.isSuffixOf s) = true) :=
  (PGV.Proofs.Accepts.prefix_verdict text obj field s _ _ _ rfl isPre).nil_iff

/-- the regular expressions in the source are the ones transcribed (re-decided every run) -/
theorem C05_patterns : PGV.Expected.patternsOK PGV.Generated.patterns = true := PGV.Props.Facts.T2_patterns

/-! non-vacuity / historical near-misses -/
example : Model.Lang.floatRe (b! "1x5") = false ∧ Spec.Lang.float (b! "1x5") = false ∧ Model.Lang.floatRe (b! "1.5") = true := by decide +kernel
example : Model.Lang.phoneRe (b! "1,123456789") = false ∧ phone (b! "13812345678") = true := by decide +kernel
example : Spec.Lang.datetime [45] [32] [58] (b! "2022-11-09  4:00:00") = false ∧ Spec.Lang.datetime [45] [32] [58] (b! "2024-02-29 23:59:59") = true
    ∧ Spec.Lang.date [45] (b! "2023-02-29") = false := by decide +kernel
example : Model.Lang.emailRe (b! "a.b-c+d@x-y.z.io") = true ∧ Spec.Lang.email (b! "a.b-c+d@x-y.z.io") = true
    ∧ Model.Lang.emailRe (b! "a,b@x.io") = false ∧ Spec.Lang.email (b! "a,b@x.io") = false := by decide +kernel

end PGV.Props.C05
