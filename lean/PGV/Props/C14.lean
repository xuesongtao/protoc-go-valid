import PGV.Proofs.RuleText

/-!
# C14 — rule text: splitter refinement, no-loss, quoted segments, builder/parser round trip
-/

namespace PGV.Props.C14
open PGV PGV.Model PGV.Spec
open PGV.Proofs.RuleText

/-- the byte stack of the splitter never holds more than one element (the two-element `Pop` is
    unreachable), and it is non-empty exactly when inside quotes -/
theorem stack_le_one (sep : UInt8) (s : Bytes) :
    let st := s.foldl (splitStep sep) {}
    st.stack.length ≤ 1 ∧ (st.inQ = true ↔ st.stack ≠ []) := by
  intro r
  obtain ⟨_, _, b, h⟩ := fold_loopSt sep s [] [] false
  rw [show r = _ from h]
  cases b <;> simp [loopSt]

/-- the splitter returns the quote-aware pieces up to one trailing empty piece (all byte strings,
    both paths) -/
theorem C14_split_refines (s : Bytes) (sep : UInt8) (h : sep ≠ QUOTE) :
    splitOk s sep (validNamesSplit s sep) = true := by
  by_cases hs : s = []
  · subst hs; rfl
  · simp only [splitOk, List.isEmpty_iff, hs, if_false, validNamesSplit_eq s sep h hs]
    split <;> simp

/-- no-loss: the pieces joined by the separator give back the text, up to one trailing separator -/
theorem C14_split_noloss (s : Bytes) (sep : UInt8) (h : sep ≠ QUOTE) (hs : s ≠ []) :
    noLoss s sep (validNamesSplit s sep) = true := by
  have hj := join_pieces sep false s
  rw [noLoss, validNamesSplit_eq s sep h hs, Bool.or_eq_true, beq_iff_eq, beq_iff_eq]
  split
  · simpa only [hj] using join_dropLastEmpty sep (pieces sep false s) (by rwa [hj])
  · exact .inl hj

theorem C14_split_empty (sep : UInt8) : validNamesSplit [] sep = [] := rfl

/-- a separator inside a quoted segment never splits: a quoted segment is glued onto the current
    piece -/
theorem C14_split_quoted (sep : UInt8) (q rest : Bytes) (hq : Bytes.hasByte q QUOTE = false) :
    pieces sep false (QUOTE :: (q ++ QUOTE :: rest))
      = (match pieces sep false rest with
         | [] => [QUOTE :: (q ++ [QUOTE])]
         | p :: ps => (QUOTE :: (q ++ QUOTE :: p)) :: ps) := by
  rw [pieces_false_quote, pieces_true_quoted sep q rest (Bytes.hasByte_eq_false.mp hq)]
  cases pieces sep false rest <;> simp [prependHead, consHead]

/-- round trip: builder → RM.Set → RM.Get → splitter → parser recovers every well-formed rule list -/
theorem C14_roundtrip (rules : List Rule) (h : ∀ r ∈ rules, r.wf = true) :
    roundTrip (rules.map fun r => (r.key, r.genArgs)) = rules.map Rule.expected := by
  have hCQ : COMMA ≠ QUOTE := by decide
  have htexts : (rules.map fun r => (r.key, r.genArgs)).map (fun (k, args) => genValidKV k args)
      = rules.map ruleText := by
    rw [List.map_map]; rfl
  rw [roundTrip, htexts, rmGet_rmSet]
  cases rules with
  | nil => rfl
  | cons r0 rs =>
    have hne : ∀ x ∈ (r0 :: rs).map ruleText, x ≠ [] := by
      rintro x hx
      obtain ⟨r, hr, rfl⟩ := List.mem_map.mp hx
      exact ruleText_ne_nil r (h r hr)
    have hgl : ∀ x ∈ (r0 :: rs).map ruleText, Glued COMMA x := by
      rintro x hx
      obtain ⟨r, hr, rfl⟩ := List.mem_map.mp hx
      exact ruleText_glued r (h r hr)
    have hj : Bytes.join [COMMA] ((r0 :: rs).map ruleText) ≠ [] :=
      Bytes.join_ne_nil _ _ _ (hne _ (by simp))
    rw [validNamesSplit_eq _ COMMA hCQ hj,
      pieces_join_glued COMMA hCQ _ (by simp) hgl, dropLastEmpty_of_last_ne _ hne, ite_self,
      List.map_map]
    exact List.map_congr_left fun r hr => parse_ruleText r (h r hr)

/-- the non-emptiness hypothesis of `C14_split_noloss` is not needed (extra; the statement above is
    kept as specified) -/
theorem C14_split_noloss_all (s : Bytes) (sep : UInt8) (h : sep ≠ QUOTE) :
    noLoss s sep (validNamesSplit s sep) = true := by
  by_cases hs : s = []
  · subst hs; rfl
  · exact C14_split_noloss s sep h hs

/-! ## non-vacuity -/

section NonVacuity

/-- `re=a{1,3}|长度` (comma inside the pattern, CJK message), `to=5|x` (one-byte message),
    `req`, `in=1/2`, `ph|=|` (message made of `=` and `|`) -/
def sample : List Rule :=
  [ ⟨[114,101], some [97,123,49,44,51,125], some [0xE9,0x95,0xBF,0xE5,0xBA,0xA6]⟩,
    ⟨[116,111], some [53], some [120]⟩,
    ⟨[114,101,113], none, none⟩,
    ⟨[105,110], some [49,47,50], none⟩,
    ⟨[112,104], none, some [61,124]⟩ ]

example : ∀ r ∈ sample, r.wf = true := by decide

/-- the text that goes through `RM` for the sample:
    `re='a{1,3}'|长度,to=5|x,req,in=(1/2),ph|=|` -/
example : Bytes.join [COMMA] (sample.map fun r => genValidKV r.key r.genArgs)
    = [114,101,61,39,97,123,49,44,51,125,39,124,0xE9,0x95,0xBF,0xE5,0xBA,0xA6,44,
       116,111,61,53,124,120,44, 114,101,113,44, 105,110,61,40,49,47,50,41,44, 112,104,124,61,124] := by
  decide

set_option maxRecDepth 20000 in
/-- direct evaluation of the pipeline on the sample (no use of the theorem) -/
example : roundTrip (sample.map fun r => (r.key, r.genArgs)) =
    [ ([114,101], [39,97,123,49,44,51,125,39],
        [0xE8,0xAF,0xB4,0xE6,0x98,0x8E,58,32,0xE9,0x95,0xBF,0xE5,0xBA,0xA6]),   -- 说明: 长度
      ([116,111], [53], [101,120,112,108,97,105,110,58,32,120]),                 -- explain: x
      ([114,101,113], [], []),
      ([105,110], [40,49,47,50,41], []),
      ([112,104], [], [101,120,112,108,97,105,110,58,32,61,124]) ] := by decide

/-- and the theorem applies to it -/
example : roundTrip (sample.map fun r => (r.key, r.genArgs)) = sample.map Rule.expected :=
  C14_roundtrip sample (by decide)

/-! ### the splitter: both paths, the trailing empty piece, and `sep ≠ QUOTE` -/

-- `a,'b,c',d` ↦ `a` `'b,c'` `d`  (slow path, separator inside quotes is kept)
example : validNamesSplit [97,44,39,98,44,99,39,44,100] = [[97], [39,98,44,99,39], [100]] := by
  decide
-- fast path keeps a trailing empty piece: `a,` ↦ `a` ``
example : validNamesSplit [97,44] = [[97], []] := by decide
-- slow path drops it: `'a',` ↦ `'a'`
example : validNamesSplit [39,97,39,44] = [[39,97,39]] := by decide
example : pieces COMMA false [39,97,39,44] = [[39,97,39], []] := by decide
-- `splitOk` is not trivially true: it rejects a split at the quoted comma
example : splitOk [39,97,44,98,39] COMMA [[39,97], [98,39]] = false := by decide
-- the hypothesis `sep ≠ QUOTE` is needed: with the quote as separator the loop loses the quote
example : validNamesSplit [97,39,98] QUOTE = [[97,98]] := by decide
example : splitOk [97,39,98] QUOTE (validNamesSplit [97,39,98] QUOTE) = false := by decide
example : noLoss [97,39,98] QUOTE (validNamesSplit [97,39,98] QUOTE) = false := by decide
-- the hypothesis of `C14_split_quoted` is needed: a quote inside `q` closes the segment early
example : pieces COMMA false (QUOTE :: ([39,44] ++ QUOTE :: [])) = [[39,39], [39]] := by decide

/-! ### each exclusion of `Rule.wf` that the round trip needs -/

/-- does the pipeline give back the rules? -/
def rtOk (rules : List Rule) : Bool :=
  roundTrip (rules.map fun r => (r.key, r.genArgs)) == rules.map Rule.expected

/-- a well-formed neighbour, `req` -/
def req : Rule := ⟨[114,101,113], none, none⟩

set_option maxRecDepth 20000

-- key: empty / contains `,` / `'` / `=` / `|`
example : rtOk [⟨[], none, none⟩] = false := by decide
example : rtOk [⟨[97,44,98], none, none⟩] = false := by decide
example : rtOk [⟨[97,39], none, none⟩, req] = false := by decide
example : rtOk [⟨[97,61,98], none, none⟩] = false := by decide
example : rtOk [⟨[97,124,98], none, none⟩] = false := by decide
-- value: contains `|` / `'` / starts with `=` / contains `,` under a key other than `re`
example : rtOk [⟨[101,113], some [97,124,98], none⟩] = false := by decide
example : rtOk [⟨[101,113], some [97,39,98], none⟩, req] = false := by decide
example : rtOk [⟨[101,113], some [61,53], none⟩] = false := by decide
example : rtOk [⟨[101,113], some [49,44,50], none⟩] = false := by decide
-- `re` value that already carries its quotes: the builder does not wrap it again
example : rtOk [⟨[114,101], some [39,97,39], none⟩] = false := by decide
-- message: empty / contains `,` / contains `'`
example : rtOk [⟨[101,113], some [53], some []⟩] = false := by decide
example : rtOk [⟨[101,113], none, some []⟩] = false := by decide
example : rtOk [⟨[101,113], some [53], some [97,44,98]⟩] = false := by decide
example : rtOk [⟨[101,113], some [53], some [97,39,98]⟩, req] = false := by decide
-- the one exclusion that is NOT needed: an empty value is tolerated by builder and parser alike
example : rtOk [⟨[101,113], some [], none⟩, ⟨[101,113], some [], some [120]⟩] = true := by decide

end NonVacuity

end PGV.Props.C14
