import PGV.Model.Expected

/-! T2 obligation, re-decided on every run against the facts extracted from /repo's current source.
One module per fact family, so that a broken fact only concerns the properties that rest on it. -/

namespace PGV.Props.Facts
open PGV

/-- every method of `LRUCache` that writes shared state holds the exclusive lock for its whole body,
every reader at least the shared lock; lock-free helpers that touch shared state are reached only
from methods holding the exclusive lock (through any chain of such helpers); no method takes the
lock twice -/
theorem T2_lock_discipline : Expected.lockOK Generated.lockFacts = true := by decide +kernel

end PGV.Props.Facts
