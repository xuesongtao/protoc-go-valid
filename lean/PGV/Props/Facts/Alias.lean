import PGV.Model.Expected

/-! T2 obligation, re-decided on every run against the facts extracted from /repo's current source.
One module per fact family, so that a broken fact only concerns the properties that rest on it. -/

namespace PGV.Props.Facts
open PGV

/-- every zero-copy `[]byte → string` conversion of package `valid` is applied to a buffer made in the
same function, after the last write to it and outside loops (C12: "the error text and parsed rule
tokens it handed out never change when later calls reuse internal buffers") -/
theorem T2_alias : Expected.aliasOK Generated.aliasFacts = true := by decide +kernel

end PGV.Props.Facts
