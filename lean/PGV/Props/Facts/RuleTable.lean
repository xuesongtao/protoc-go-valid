import PGV.Model.Expected

/-! T2 obligation, re-decided on every run against the facts extracted from /repo's current source.
One module per fact family, so that a broken fact only concerns the properties that rest on it. -/

namespace PGV.Props.Facts
open PGV

/-- `validName2FnMap` binds every rule name to the function the model's table binds it to -/
theorem T2_rule_table : Expected.ruleTableOK Generated.ruleTable = true := by decide +kernel

/-- the model's rule table has exactly the rule names of the code's table -/
theorem T2_model_keys : Expected.modelKeysOK Generated.ruleKeys = true := by decide +kernel

end PGV.Props.Facts
