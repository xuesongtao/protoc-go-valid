import PGV.Model.Expected

/-! T2 obligation, re-decided on every run against the facts extracted from /repo's current source.
One module per fact family, so that a broken fact only concerns the properties that rest on it. -/

namespace PGV.Props.Facts
open PGV

/-- the regular expressions of `valid/init.go` and `file/parse.go` are (up to `regexp/syntax`
normalisation) the ones the recognisers and scanners of the model transcribe -/
theorem T2_patterns : Expected.patternsOK Generated.patterns = true := by decide +kernel

end PGV.Props.Facts
