import PGV.Model.Expected

/-! T2 obligation, re-decided on every run against the facts extracted from /repo's current source.
One module per fact family, so that a broken fact only concerns the properties that rest on it. -/

namespace PGV.Props.Facts
open PGV

/-- no function of package `valid` assigns package-level state except the two registration functions -/
theorem T2_globals : Expected.globalsOK Generated.globalWriters = true := by decide +kernel

end PGV.Props.Facts
