import PGV.Proofs.Walker
import PGV.Proofs.Total

/-!
# C13 — validation is total: bad input or bad rules yield an error, never a crash  (partial)

The model returns `.error (.panic _)` wherever the Go code would panic.  Proved here: the entry-point
guards (nil, typed nil pointers, wrong kinds, nil `*string`, nil collection elements) and the rule
functions whose argument parsing indexes into the rule text (`in`/`include`, `re`, `datetime`,
`to`/`oto`) return an ordinary error clause for *every* rule text.  Not a theorem: panics inside
unmodelled stdlib calls and the Go runtime (recorded as residual in the trusted base); the `total`
streams run every call under `recover`.
-/

namespace PGV.Props.C13
open PGV PGV.Model

def isPanic {α} : M α → Bool
  | .error (.panic _) => true
  | _ => false

/-! ### entry-point guards -/

theorem C13_struct_untyped_nil (cfg : StructCfg) : structValid cfg .untypedNil = .ok (earlyErr (b! "src is nil")) := rfl

theorem C13_struct_typed_nil (cfg : StructCfg) (t : Bytes) (v : GoVal) (h : v.stripPtr = none) :
    structValid cfg (.val t v) = .ok (earlyErr (b! "src \"" ++ t ++ b! "\" is nil")) := by
  simp [structValid, h]; rfl

theorem C13_var_untyped_nil (ext : Ext) (fns : FnTables) (rules : List Bytes) :
    varValid ext fns rules .untypedNil = .ok (earlyErr (b! "src is nil")) := rfl

theorem C13_var_typed_nil (ext : Ext) (fns : FnTables) (rules : List Bytes) (t : Bytes) (v : GoVal) (h : v.stripPtr = none) :
    varValid ext fns rules (.val t v) = .ok (earlyErr (b! "src \"" ++ t ++ b! "\" is nil")) := by
  simp [varValid, h]; rfl

theorem C13_map_untyped_nil (ext : Ext) (fns : FnTables) (rm : RM) :
    mapValid ext fns rm .untypedNil = .ok (earlyErr (b! "src is nil")) := rfl

theorem C13_map_typed_nil (ext : Ext) (fns : FnTables) (rm : RM) (t : Bytes) (v : GoVal) (hr : rm ≠ []) (h : v.stripPtr = none) :
    mapValid ext fns rm (.val t v) = .ok (earlyErr (b! "src \"" ++ t ++ b! "\" is nil")) := by
  have : rm.isEmpty = false := by cases rm <;> simp_all
  simp [mapValid, h, this]; rfl

/-- `Map` on something that is not a map (after the checks above): a clause, not `Type().Key()` on a non-map -/
theorem C13_map_not_a_map (c : FlatCfg) (rm : RM) (pre : Bytes) (st : WSt) (bits : Nat) (z : Int) :
    mapValidate c rm pre (.int bits z) st = pure (st.write (getJoinFieldErr [] pre (b! "val must map"))) := rfl

theorem C13_map_key_not_string (c : FlatCfg) (rm : RM) (pre t : Bytes) (n : Bool) (es : Entries) (st : WSt) :
    mapValidate c rm pre (.map t false n es) st = pure (st.write (getJoinFieldErr [] pre (b! "map key must string"))) := by
  simp [mapValidate]

theorem C13_url_nil_ptr (ext : Ext) (fns : FnTables) (rm : RM) :
    urlValid ext fns rm .nilPtr = .ok (earlyErr (b! "src \"*string\" is nil")) := rfl

theorem C13_url_not_string (ext : Ext) (fns : FnTables) (rm : RM) :
    urlValid ext fns rm .notString = .ok (earlyErr (b! "src must is string/*string")) := rfl

/-- nil elements of collections of pointers are skipped, they never reach `reflect` as invalid values -/
theorem C13_nil_element (cfg : StructCfg) (name t : Bytes) (g : Bool) (st : WSt) :
    validate cfg name (.ptr t none) g st = pure st := by simp [validate]

/-! ### totality: no entry point ends in a modelled panic — every configuration, every value tree,
every rule text (arbitrary bytes), every answer of the residual stdlib calls -/

open PGV.Proofs.Total in
theorem C13_total_struct (cfg : StructCfg) (src : Src) : ∀ w, structValid cfg src ≠ .error (.panic w) :=
  (NP_structValid cfg src).np

open PGV.Proofs.Total in
theorem C13_total_var (ext : Ext) (fns : FnTables) (rules : List Bytes) (src : Src) :
    ∀ w, varValid ext fns rules src ≠ .error (.panic w) := (NP_varValid ext fns rules src).np

open PGV.Proofs.Total in
theorem C13_total_map (ext : Ext) (fns : FnTables) (rm : RM) (src : Src) :
    ∀ w, mapValid ext fns rm src ≠ .error (.panic w) := (NP_mapValid ext fns rm src).np

open PGV.Proofs.Total in
theorem C13_total_url (ext : Ext) (fns : FnTables) (rm : RM) (src : UrlSrc) :
    ∀ w, urlValid ext fns rm src ≠ .error (.panic w) := (NP_urlValid ext fns rm src).np

open PGV.Proofs.Total in
/-- every function of the built-in rule table, on every rule text and value -/
theorem C13_total_rules (key : Bytes) (run) (h : builtin key = some (.fn run)) (e : Ext) (text obj field : Bytes) (v : GoVal) :
    ∀ w, run e text obj field v ≠ .error (.panic w) := (NP_builtin key run h e text obj field v).np

/-- reversed brackets (`in=)(`) are a rule-writing error -/
example : (match ruleIn (fun _ => none) (b! "in=)(") (b! "T") (b! "F") (.str (b! "x")) with
    | .ok t => t == getJoinFieldErr (b! "T") (b! "F") inValErr | _ => false) = true := by decide +kernel
/-- `re='` (nothing after the opening quote) is a rule-writing error -/
example : isPanic (ruleRe (fun _ => none) (b! "re='") [] [] (.str (b! "x"))) = false := by decide +kernel
/-- `datetime` with four separators: the fourth is ignored -/
example : (match ruleDatetime (fun _ => some { code := 0 }) (b! "datetime='a,b,c,d'") [] [] (.str (b! "x")) with
    | .ok t => !t.isEmpty | _ => false) = true := by decide +kernel

end PGV.Props.C13
