import PGV.Proofs.Walker
import PGV.Proofs.Frame
import PGV.Proofs.Tree

/-!
# C02 — every violated rule is reported once, in order; nil iff none

Statements about the model of the rule loops and of `getError`:
* a rule item contributes its own text and the loop always continues with the remaining items
  (no early exit, no dropped item) — for struct fields and for `Var` / `Map` / `Url`;
* the returned error is `nil` exactly when nothing was written, and otherwise the written text
  without the last separator.
The order-preserving concatenation over fields / nested objects is the frame theorem of
`PGV.Props.Frame` (see C12), the per-rule verdicts are C01 / C05.
-/

namespace PGV.Props.C02
open PGV PGV.Model PGV.Proofs.Walker

/-- `nil` iff no clause was written (main buffer and group clauses) -/
theorem C02_nil_iff (o : CallOut) (order : List Bytes) :
    o.err order = none ↔ o.main ++ order.flatten = [] := by
  simp [CallOut.err]

/-- a non-nil error is the written text minus exactly one trailing separator -/
theorem C02_no_trailing_separator (o : CallOut) (order : List Bytes) (body : Bytes)
    (h : o.main ++ order.flatten = body ++ errEndFlag) (hb : body ++ errEndFlag ≠ []) :
    o.err order = some body := by
  simp [CallOut.err, h, Bytes.trimSuffix, errEndFlag]

/-- struct fields: one rule item = one step; whatever it wrote, the loop goes on with the rest -/
theorem C02_struct_rule_runs_and_continues (ext : Ext) (fns : FnTables) (scope sn fname : Bytes) (v : GoVal)
    (descend : Bool → Bool → Bytes → WSt → M WSt) (r : Bytes) (run) (rs : List Bytes) (d : Bool) (st : WSt)
    (hr : r ≠ []) (hk : resolveFn fns (parseValidNameKV r).1 = .builtin run) (hz : v.isZero = false) :
    fieldRules ext fns scope sn fname v descend (r :: rs) d st
      = (run ext r sn fname v >>= fun t => fieldRules ext fns scope sn fname v descend rs d (st.write t)) :=
  fieldRules_builtin ext fns scope sn fname v descend r run rs d st hr hk hz

theorem C02_struct_unknown_one_clause (ext : Ext) (fns : FnTables) (scope sn fname : Bytes) (v : GoVal)
    (descend : Bool → Bool → Bytes → WSt → M WSt) (r : Bytes) (rs : List Bytes) (d : Bool) (st : WSt)
    (hr : r ≠ []) (hk : resolveFn fns (parseValidNameKV r).1 = .unknown) :
    fieldRules ext fns scope sn fname v descend (r :: rs) d st
      = fieldRules ext fns scope sn fname v descend rs d
          (st.write (getJoinFieldErr sn fname (unknownFnMsg (parseValidNameKV r).1))) :=
  fieldRules_unknown ext fns scope sn fname v descend r rs d st hr hk

theorem C02_empty_item_skipped (ext : Ext) (fns : FnTables) (scope sn fname : Bytes) (v : GoVal)
    (descend : Bool → Bool → Bytes → WSt → M WSt) (rs : List Bytes) (d : Bool) (st : WSt) :
    fieldRules ext fns scope sn fname v descend ([] :: rs) d st
      = fieldRules ext fns scope sn fname v descend rs d st :=
  fieldRules_empty ext fns scope sn fname v descend rs d st

theorem C02_flat_rule_runs_and_continues (c : FlatCfg) (scope ne nc : Bytes) (v : GoVal) (r : Bytes) (run)
    (rs : List Bytes) (st : WSt) (hr : r ≠ []) (hk : resolveFn c.fns (parseValidNameKV r).1 = .builtin run)
    (hz : c.isEmpty v = false) :
    flatRules c scope ne nc v (r :: rs) st
      = (run c.ext r [] nc v >>= fun t => flatRules c scope ne nc v rs (st.write t)) :=
  flatRules_builtin c scope ne nc v r run rs st hr hk hz

theorem C02_flat_unknown_one_clause (c : FlatCfg) (scope ne nc : Bytes) (v : GoVal) (r : Bytes)
    (rs : List Bytes) (st : WSt) (hr : r ≠ []) (hk : resolveFn c.fns (parseValidNameKV r).1 = .unknown) :
    flatRules c scope ne nc v (r :: rs) st
      = flatRules c scope ne nc v rs (st.write (getJoinFieldErr [] ne (unknownFnMsg (parseValidNameKV r).1))) :=
  flatRules_unknown c scope ne nc v r rs st hr hk

/-! ### the walkers only append, and outputs concatenate in traversal order

For every configuration, every value tree (any depth and width) and every state: running a walker
function from a state is running it from the empty state and appending the result — the text it
writes (and the group members it registers) never depend on what is already in the buffer, and
nothing already written is touched. -/

open PGV.Proofs.Frame in
theorem C02_walker_appends (cfg : StructCfg) (name : Bytes) (v : GoVal) (g : Bool) (st : WSt) :
    validate cfg name v g st = lift st (validate cfg name v g {}) := Frame_validate cfg name v g st

open PGV.Proofs.Frame in
theorem C02_fields_append (cfg : StructCfg) (sn : Bytes) (cus : RM) (fs : Fields) (st : WSt) :
    fieldsLoop cfg sn cus fs st = lift st (fieldsLoop cfg sn cus fs {}) := Frame_fieldsLoop cfg sn cus fs st

open PGV.Proofs.Frame in
theorem C02_flat_rules_append (c : FlatCfg) (scope ne nc : Bytes) (v : GoVal) (rs : List Bytes) (st : WSt) :
    flatRules c scope ne nc v rs st = lift st (flatRules c scope ne nc v rs {}) := Frame_flatRules c scope ne nc v rs st

open PGV.Proofs.Frame in
/-- declaration order: the output of a struct is the output of its first (marked) field followed by
the output of the remaining fields -/
theorem C02_fields_in_order (cfg : StructCfg) (sn : Bytes) (cus : RM) (name : Bytes)
    (tags : List (Bytes × Bytes)) (v : GoVal) (rest : Fields) :
    fieldsLoop cfg sn cus (.cons name true false tags v rest) {}
      = ((if (effectiveRule cfg cus name tags).isEmpty then pure {}
          else fieldRules cfg.ext cfg.fns sn sn name v
            (fun isValidTvKind skip cusMsg st => existTop cfg sn name v isValidTvKind skip cusMsg st)
            (validNamesSplit (effectiveRule cfg cus name tags)) false {}) >>= fun a =>
          lift a (fieldsLoop cfg sn cus rest {})) := by
  rw [fieldsLoop_rules]; exact bind_lift _ _ (Frame_fieldsLoop cfg sn cus rest)

open PGV.Proofs.Frame in
/-- index order: the output for a collection is the output for element 0 followed by that of the rest -/
theorem C02_elements_in_order (cfg : StructCfg) (path : Bytes) (i : Nat) (v : GoVal) (rest : GoVals) :
    elemsLoop cfg path i (.cons v rest) {}
      = (validate cfg (path ++ [91] ++ natToBytes i ++ [93]) v true {} >>= fun a =>
          lift a (elemsLoop cfg path (i + 1) rest {})) := by
  rw [elemsLoop]; exact bind_lift _ _ (Frame_elemsLoop cfg path (i + 1) rest)

open PGV.Proofs.Frame in
/-- rule order within a field: the first item's contribution, then the remaining items' -/
theorem C02_rules_in_order (ext : Ext) (fns : FnTables) (scope sn fname : Bytes) (v : GoVal)
    (descend : Bool → Bool → Bytes → WSt → M WSt) (hd : ∀ a b c, Frame (descend a b c))
    (r : Bytes) (run) (rs : List Bytes) (d : Bool)
    (hr : r ≠ []) (hk : resolveFn fns (parseValidNameKV r).1 = .builtin run) (hz : v.isZero = false) :
    fieldRules ext fns scope sn fname v descend (r :: rs) d {}
      = (run ext r sn fname v >>= fun t =>
          lift (({} : WSt).write t) (fieldRules ext fns scope sn fname v descend rs d {})) := by
  rw [fieldRules_builtin _ _ _ _ _ _ _ _ run _ _ {} hr hk hz]
  exact bind_congr fun t => Frame_fieldRules ext fns scope sn fname v descend hd rs d (({} : WSt).write t)

/-! ### closed form for `Var` / `Map` / `Url`: one contribution per rule item, in rule order -/

/-- the text one rule item contributes to the error (possibly empty) -/
def itemText (c : FlatCfg) (ne nc : Bytes) (v : GoVal) (r : Bytes) : M Bytes :=
  if r.isEmpty then pure []
  else match resolveFn c.fns (parseValidNameKV r).1 with
    | .unknown => pure (getJoinFieldErr [] ne (unknownFnMsg (parseValidNameKV r).1))
    | .structural =>
      if (parseValidNameKV r).1 == requiredB then
        pure (if c.requiredViolated v then requiredClause [] nc (parseValidNameKV r).2.2 else [])
      else if c.supportsGroups && ((parseValidNameKV r).1 == eitherB || (parseValidNameKV r).1 == bothEqB) then pure []
      else pure (getJoinFieldErr [] nc (b! "valid \"" ++ r ++ b! "\" is no support"))
    | .custom mk => pure (if c.isEmpty v then [] else customClause mk r [] nc)
    | .builtin run => if c.isEmpty v then pure [] else run c.ext r [] nc v

/-- the group member one rule item registers (`either` / `botheq` under `Map` / `Url`) -/
def itemMembers (c : FlatCfg) (scope ne : Bytes) (v : GoVal) (r : Bytes) : List Member :=
  if r.isEmpty then []
  else match resolveFn c.fns (parseValidNameKV r).1 with
    | .structural =>
      if (parseValidNameKV r).1 == requiredB then []
      else if c.supportsGroups && ((parseValidNameKV r).1 == eitherB || (parseValidNameKV r).1 == bothEqB) then
        [{ scope := scope, validName := r, objName := [], fieldName := ne, val := v }]
      else []
    | _ => []

theorem wst_id (st : WSt) : { st with buf := st.buf ++ [], members := st.members ++ [] } = st := by
  cases st; simp

/-- one step of the loop: the item's text and members, then the rest from the extended state -/
theorem flat_one_step (c : FlatCfg) (scope ne nc : Bytes) (v : GoVal) (r : Bytes) (rs : List Bytes) (st : WSt) :
    flatRules c scope ne nc v (r :: rs) st
      = (itemText c ne nc v r >>= fun t =>
          flatRules c scope ne nc v rs
            { st with buf := st.buf ++ t, members := st.members ++ itemMembers c scope ne v r }) := by
  rw [flatRules_cons]; unfold flatStep itemText itemMembers
  cases r.isEmpty
  case true => simp only [if_true, pure_bind, wst_id]
  cases resolveFn c.fns (parseValidNameKV r).1 with
  | unknown => simp [WSt.write]
  | structural =>
    cases (parseValidNameKV r).1 == requiredB
    case true => cases c.requiredViolated v <;> simp [WSt.write]
    cases c.supportsGroups && ((parseValidNameKV r).1 == eitherB || (parseValidNameKV r).1 == bothEqB) <;> simp [WSt.write]
  | custom mk => cases c.isEmpty v <;> simp [WSt.write]
  | builtin run => cases c.isEmpty v <;> simp [WSt.write]

/-- **every rule item contributes exactly once, in rule order**: the rule loop of `Var` / `Map` / `Url`
appends, for the items `r₁ … rₙ` in this order, the text `itemText rᵢ` of each (a clause, or nothing),
and registers the group members in the same order — whatever the earlier items wrote; a residual or
a panic of one item is the outcome of the loop -/
theorem C02_flat_closed_form (c : FlatCfg) (scope ne nc : Bytes) (v : GoVal) (rs : List Bytes) (st : WSt) :
    flatRules c scope ne nc v rs st
      = (rs.mapM (itemText c ne nc v) >>= fun ts =>
          pure { st with buf := st.buf ++ ts.flatten,
                         members := st.members ++ rs.flatMap (itemMembers c scope ne v) }) := by
  induction rs generalizing st with
  | nil => simp [flatRules_nil]
  | cons r rs ih =>
    simp only [flat_one_step, List.mapM_cons, ih, bind_assoc, pure_bind, List.flatten_cons, List.flatMap_cons,
      List.append_assoc]

/-! ### closed form for struct fields -/

open PGV.Proofs.Frame in
/-- what one rule item of a struct field produces, run from the empty state; `d` = a `required` /
`exist` item came earlier in the list (the nested object has been visited already) -/
def fieldItem (ext : Ext) (fns : FnTables) (scope sn fname : Bytes) (v : GoVal)
    (descend : Bool → Bool → Bytes → WSt → M WSt) (d : Bool) (r : Bytes) : M WSt :=
  if r.isEmpty then pure {}
  else match resolveFn fns (parseValidNameKV r).1 with
    | .unknown => pure (({} : WSt).write (getJoinFieldErr sn fname (unknownFnMsg (parseValidNameKV r).1)))
    | .structural =>
      if (parseValidNameKV r).1 == requiredB then
        (if requiredEmpty v then pure (({} : WSt).write (requiredClause sn fname (parseValidNameKV r).2.2))
         else descend false d (parseValidNameKV r).2.2 {})
      else if (parseValidNameKV r).1 == existB then descend true d (parseValidNameKV r).2.2 {}
      else pure { members := [{ scope := scope, validName := r, objName := sn, fieldName := fname, val := v }] }
    | .custom mk => pure (if v.isZero then {} else ({} : WSt).write (customClause mk r sn fname))
    | .builtin run => if v.isZero then pure {} else run ext r sn fname v >>= fun t => pure (({} : WSt).write t)

def descAfter (fns : FnTables) (d : Bool) (r : Bytes) : Bool :=
  if r.isEmpty then d
  else match resolveFn fns (parseValidNameKV r).1 with
    | .structural => if (parseValidNameKV r).1 == requiredB || (parseValidNameKV r).1 == existB then true else d
    | _ => d

open PGV.Proofs.Frame in
/-- the items' contributions, each run from the empty state, appended in rule order -/
def fieldItems (ext : Ext) (fns : FnTables) (scope sn fname : Bytes) (v : GoVal)
    (descend : Bool → Bool → Bytes → WSt → M WSt) : Bool → List Bytes → M WSt
  | _, [] => pure {}
  | d, r :: rs => fieldItem ext fns scope sn fname v descend d r >>= fun a =>
      lift a (fieldItems ext fns scope sn fname v descend (descAfter fns d r) rs)

open PGV.Proofs.Frame in
theorem field_one_step (ext : Ext) (fns : FnTables) (scope sn fname : Bytes) (v : GoVal)
    (descend : Bool → Bool → Bytes → WSt → M WSt) (hd : ∀ a b c, Frame (descend a b c))
    (r : Bytes) (rs : List Bytes) (d : Bool) :
    fieldRules ext fns scope sn fname v descend (r :: rs) d {}
      = (fieldItem ext fns scope sn fname v descend d r >>= fun a =>
          lift a (fieldRules ext fns scope sn fname v descend rs (descAfter fns d r) {})) := by
  -- `fieldItem … d r` is `fieldStep … d r {}`, and `descAfter` here is that of `Spec.Clauses`, by unfolding
  rw [fieldRules_cons]; exact bind_lift _ _ (Frame_fieldRules ext fns scope sn fname v descend hd rs _)

open PGV.Proofs.Frame in
/-- **struct fields: every rule item contributes exactly once, in rule order** — the loop's result from
any state is that state extended by the items' own contributions (clause text, visit of the nested
object, group registration), each computed independently of what was written before -/
theorem C02_field_closed_form (ext : Ext) (fns : FnTables) (scope sn fname : Bytes) (v : GoVal)
    (descend : Bool → Bool → Bytes → WSt → M WSt) (hd : ∀ a b c, Frame (descend a b c))
    (rs : List Bytes) (d : Bool) (st : WSt) :
    fieldRules ext fns scope sn fname v descend rs d st
      = lift st (fieldItems ext fns scope sn fname v descend d rs) := by
  rw [Frame_fieldRules ext fns scope sn fname v descend hd rs d st]
  congr 1
  induction rs generalizing d with
  | nil => simp [fieldRules, fieldItems]
  | cons r rs ih =>
    rw [field_one_step ext fns scope sn fname v descend hd, fieldItems]
    congr 1; funext a
    rw [ih]

/-! ### the whole tree in closed form: the walker's output is the report of `Spec.Clauses`

`Spec.Clauses` writes the list of rule instances of a value tree down without any state: the report of
a struct is the concatenation of the reports of its fields in declaration order, that of a field the
concatenation of its items' contributions in rule order (exactly one contribution per item), that of
a collection the concatenation over its elements in index order, and the report of a marked
sub-object stands where the `required` / `exist` item stands.  The walker — which threads the error
buffer and the group table through `validate` / `exist` — yields, from ANY state, that state extended
by the report: for every configuration and every value tree, of any depth and width. -/

open PGV.Spec.Clauses PGV.Proofs.Tree in
theorem C02_tree_report (cfg : StructCfg) (name : Bytes) (v : GoVal) (g : Bool) (st : WSt) :
    validate cfg name v g st = (sValidate cfg name v g >>= fun evs => pure (replay evs st)) :=
  validate_spec cfg name v g st

open PGV.Spec.Clauses PGV.Proofs.Tree in
theorem C02_fields_report (cfg : StructCfg) (sn : Bytes) (cus : RM) (fs : Fields) (st : WSt) :
    fieldsLoop cfg sn cus fs st = (sFields cfg sn cus fs >>= fun evs => pure (replay evs st)) :=
  fieldsLoop_spec cfg sn cus fs st

open PGV.Spec.Clauses PGV.Proofs.Tree in
theorem C02_elements_report (cfg : StructCfg) (path : Bytes) (i : Nat) (es : GoVals) (st : WSt) :
    elemsLoop cfg path i es st = (sElems cfg path i es >>= fun evs => pure (replay evs st)) :=
  elemsLoop_spec cfg path i es st

open PGV.Spec.Clauses PGV.Proofs.Tree in
theorem C02_entries_report (cfg : StructCfg) (pathOpen : Bytes) (es : Entries) (st : WSt) :
    entriesLoop cfg pathOpen es st = (sEntries cfg pathOpen es >>= fun evs => pure (replay evs st)) :=
  entriesLoop_spec cfg pathOpen es st

open PGV.Spec.Clauses in
/-- extending a state by a report appends the report's clause texts, in order, to the buffer … -/
theorem C02_replay_buf (evs : List Ev) (st : WSt) : (replay evs st).buf = st.buf ++ textOf evs := by
  induction evs generalizing st with
  | nil => simp [replay, textOf]
  | cons e evs ih =>
    show (replay evs (Ev.apply st e)).buf = _
    rw [ih]
    cases e <;> simp [Ev.apply, textOf, WSt.write, WSt.mark]

open PGV.Spec.Clauses in
/-- … and its group members, in order, to the group table; nothing already there is touched -/
theorem C02_replay_members (evs : List Ev) (st : WSt) :
    (replay evs st).members = st.members ++ membersOf evs := by
  induction evs generalizing st with
  | nil => simp [replay, membersOf]
  | cons e evs ih =>
    show (replay evs (Ev.apply st e)).members = _
    rw [ih]
    cases e <;> simp [Ev.apply, membersOf, WSt.write, WSt.mark]

open PGV.Spec.Clauses in
theorem C02_text_append (a b : List Ev) : textOf (a ++ b) = textOf a ++ textOf b := by
  induction a with
  | nil => rfl
  | cons e a ih => cases e <;> simp [textOf, ih]

open PGV.Spec.Clauses in
theorem C02_members_append (a b : List Ev) : membersOf (a ++ b) = membersOf a ++ membersOf b := by
  induction a with
  | nil => rfl
  | cons e a ih => cases e <;> simp [membersOf, ih]

open PGV.Spec.Clauses PGV.Proofs.Tree in
/-- **the call**: `Struct(v)` on a struct (behind any number of pointers) returns the clause texts of
the tree's report, in report order, followed by the clauses of the groups registered in the report —
`nil` exactly when all of them are empty (`C02_nil_iff`) -/
theorem C02_struct_call (cfg : StructCfg) (tstr : Bytes) (v : GoVal) (t n : Bytes) (tm : Bool) (fs : Fields)
    (hv : v.stripPtr = some (.struct t n tm fs)) :
    structValid cfg (.val tstr v)
      = (sValidate cfg [] (.struct t n tm fs) false >>= fun evs =>
          groupClauses cfg.ext (membersOf evs) >>= fun gs =>
          pure { main := textOf evs, groups := gs.filter (!·.isEmpty), marks := (replay evs {}).marks }) := by
  unfold structValid
  simp only [hv]
  rw [validate_spec]
  unfold runS
  cases sValidate cfg [] (.struct t n tm fs) false with
  | error e => rfl
  | ok evs =>
    show finish cfg.ext (replay evs {})
      = (groupClauses cfg.ext (membersOf evs) >>= fun gs =>
          pure { main := textOf evs, groups := gs.filter (!·.isEmpty), marks := (replay evs {}).marks })
    unfold finish
    rw [C02_replay_buf, C02_replay_members]
    simp only [List.nil_append]

open PGV.Spec.Clauses in
/-- a struct's report: its first field's, then the others' (declaration order) — at the level of the
clause text -/
theorem C02_report_fields_text (cfg : StructCfg) (sn : Bytes) (cus : RM) (name : Bytes) (tags : List (Bytes × Bytes))
    (v : GoVal) (rest : Fields) (a b : List Ev)
    (ha : sRules cfg.ext cfg.fns sn sn name v (fun k skip c => sExistTop cfg sn name v k skip c) false
            (validNamesSplit (effectiveRule cfg cus name tags)) = .ok a)
    (hne : (effectiveRule cfg cus name tags).isEmpty = false)
    (hb : sFields cfg sn cus rest = .ok b) :
    (sFields cfg sn cus (.cons name true false tags v rest)).map textOf = .ok (textOf a ++ textOf b) := by
  rw [sFields]
  unfold effectiveRule at ha hne
  simp only [Bool.not_true, Bool.false_or, hne, Bool.false_eq_true, if_false, ha, hb]
  show Except.ok (textOf (a ++ b)) = _
  rw [C02_text_append]

/-- non-vacuity of the tree report: a struct with a violated field rule, a nested object reached by
`exist` with its own violation, and an `either` pair — the report's text is the error -/
example :
    (match structValid { ext := fun _ => none }
        (.val (b! "main.T")
          (.struct (b! "main.T") (b! "T") false
            (.cons (b! "A") true false [(b! "valid", b! "ge=5")] (.int 0 3)
            (.cons (b! "B") true false [(b! "valid", b! "exist")]
                (.struct (b! "main.U") (b! "U") false
                  (.cons (b! "X") true false [(b! "valid", b! "required")] (.str [])
                  (.cons (b! "Y") true false [] (.int 0 1) .nil)))
            .nil)))) with
     | .ok o => o.err o.groups
     | _ => none)
    = some (b! "\"T.A\" input \"3\", explain: it is less than 5 num-size; \"T.B.X\" input \"\", explain: it is required") := by
  decide +kernel

/-- non-vacuity: two violated rules on one `Var` value give two clauses in rule order, one separator -/
example :
    (match varValid (fun _ => none) {} [b! "ge=5,le=1"] (.val (b! "int") (.int 0 3)) with
     | .ok o => o.err o.groups
     | _ => none)
    = some (b! "input \"3\", explain: it is less than 5 num-size; input \"3\", explain: it is more than 1 num-size") := by
  decide +kernel

end PGV.Props.C02
