import PGV.Proofs.Walker

/-!
# C04 — nested validation reaches exactly the marked sub-objects, named by path

One-step equations of the struct walker, for every configuration, value and state:
which fields are looked at, what `required`/`exist` descend into, how elements and entries are named,
and that nil / zero sub-objects are passed over silently.
-/

namespace PGV.Props.C04
open PGV PGV.Model

/-- a field without rules (after overrides), an unexported field and a `time.Time` field are never looked at -/
theorem C04_unmarked_never (cfg : StructCfg) (sn : Bytes) (cus : RM) (name : Bytes) (ex tt : Bool)
    (tags : List (Bytes × Bytes)) (v : GoVal) (rest : Fields) (st : WSt)
    (h : ex = false ∨ tt = true ∨ (rmGet cus name = [] ∧ tagGet tags cfg.tag = [])) :
    fieldsLoop cfg sn cus (.cons name ex tt tags v rest) st = fieldsLoop cfg sn cus rest st :=
  PGV.Proofs.Walker.fieldsLoop_skip cfg sn cus name ex tt tags v rest st h

/-- a marked field: its effective rule list is evaluated with the object's path as scope, then the next field -/
theorem C04_marked_field (cfg : StructCfg) (sn : Bytes) (cus : RM) (name : Bytes)
    (tags : List (Bytes × Bytes)) (v : GoVal) (rest : Fields) (st : WSt) (rule : Bytes)
    (hrule : rule = (if !(rmGet cus name).isEmpty then rmGet cus name else tagGet tags cfg.tag)) (hne : rule ≠ []) :
    fieldsLoop cfg sn cus (.cons name true false tags v rest) st
      = (fieldRules cfg.ext cfg.fns sn sn name v
          (fun isValidTvKind skip cusMsg st => existTop cfg sn name v isValidTvKind skip cusMsg st)
          (validNamesSplit rule) false st >>= fun st1 => fieldsLoop cfg sn cus rest st1) := by
  subst hrule
  rw [PGV.Proofs.Walker.fieldsLoop_rules, show (PGV.Proofs.Walker.effectiveRule cfg cus name tags).isEmpty = false from
    PGV.Proofs.Walker.isEmpty_false hne]; rfl

/-- nil pointers (elements, map values, multi-level) have nothing to validate: silent -/
theorem C04_nil_silent (cfg : StructCfg) (name t : Bytes) (g : Bool) (st : WSt) :
    validate cfg name (.ptr t none) g st = pure st := by simp [validate]

theorem C04_through_pointer (cfg : StructCfg) (name t : Bytes) (x : GoVal) (g : Bool) (st : WSt) :
    validate cfg name (.ptr t (some x)) g st = validate cfg name x g st := by simp [validate]

/-- a struct is validated under the name it was reached by (its type name only when outermost) with its own rule set -/
theorem C04_struct_named_by_path (cfg : StructCfg) (path t n : Bytes) (tm : Bool) (fs : Fields) (g : Bool) (st : WSt) :
    validate cfg path (.struct t n tm fs) g st
      = fieldsLoop cfg (structEnter cfg path t n).1 (structEnter cfg path t n).2 fs st := by simp [validate]

theorem C04_name_nested (cfg : StructCfg) (path t n : Bytes) (h : path ≠ []) : (structEnter cfg path t n).1 = path := by
  have : path.isEmpty = false := by cases path <;> simp_all
  simp [structEnter, this]

/-- elements of a slice / array are named `path[i]`, in index order -/
theorem C04_element_paths (cfg : StructCfg) (path : Bytes) (i : Nat) (v : GoVal) (rest : GoVals) (st : WSt) :
    elemsLoop cfg path i (.cons v rest) st
      = (validate cfg (path ++ [91] ++ natToBytes i ++ [93]) v true st >>= fun st1 => elemsLoop cfg path (i + 1) rest st1) := by
  rw [elemsLoop]

/-- non-struct elements of a collection are passed over silently -/
theorem C04_scalar_element_silent (cfg : StructCfg) (path s : Bytes) (st : WSt) :
    validate cfg path (.str s) true st = pure st := by simp [validate, nonStruct]

/-- `required`/`exist` on a struct-valued field: the nested object is validated under `Parent.Field`;
zero structs, `time.Time` and already-visited objects are skipped silently -/
theorem C04_descend_struct (cfg : StructCfg) (sn fname t n cus : Bytes) (fs : Fields) (k : Bool) (st : WSt)
    (hz : fs.allZero = false) :
    existTop cfg sn fname (.struct t n false fs) k false cus st
      = fieldsLoop cfg (structEnter cfg (sn ++ [46] ++ fname) t n).1 (structEnter cfg (sn ++ [46] ++ fname) t n).2 fs st := by
  rw [existTop, hz]; rfl

theorem C04_zero_struct_silent (cfg : StructCfg) (sn fname t n cus : Bytes) (fs : Fields) (tm k skip : Bool) (st : WSt)
    (hz : fs.allZero = true) :
    existTop cfg sn fname (.struct t n tm fs) k skip cus st = pure st := by simp [existTop, hz]

theorem C04_nil_collection_silent (cfg : StructCfg) (sn fname t e cus : Bytes) (es : GoVals) (k skip : Bool) (st : WSt) :
    existTop cfg sn fname (.slice t e true es) k skip cus st = pure st := by simp [existTop]

theorem C04_descend_slice (cfg : StructCfg) (sn fname t e cus : Bytes) (es : GoVals) (k : Bool) (st : WSt) :
    existTop cfg sn fname (.slice t e false es) k false cus st = elemsLoop cfg (sn ++ [46] ++ fname) 0 es st := by
  simp [existTop]

theorem C04_descend_ptr (cfg : StructCfg) (sn fname pt t n cus : Bytes) (fs : Fields) (k : Bool) (st : WSt) :
    existTop cfg sn fname (.ptr pt (some (.struct t n false fs))) k false cus st
      = fieldsLoop cfg (structEnter cfg (sn ++ [46] ++ fname) t n).1 (structEnter cfg (sn ++ [46] ++ fname) t n).2 fs st := by
  simp [existTop, existStripped]

/-- entries of a map field are named `Parent.Field[key]` -/
theorem C04_entry_paths (cfg : StructCfg) (pathOpen ks : Bytes) (k v : GoVal) (rest : Entries) (st : WSt)
    (hk : keyStr cfg.ext k = .ok ks) :
    entriesLoop cfg pathOpen (.cons k v rest) st
      = (validate cfg (pathOpen ++ ks ++ [93]) v true (st.mark 1) >>= fun st1 => entriesLoop cfg pathOpen rest st1) := by
  rw [entriesLoop, hk]; rfl

/-- a key of interface type is named by its dynamic value: the entries `1` and `"1"` of a `map[interface{}]T` are both
reported under `…[1]` — two entries, each visited once under its rendering (never merged, never skipped) -/
theorem C04_iface_key_named_by_value (ext : Ext) (t : Bytes) (bits : Nat) (z : Int) (s : Bytes) :
    keyStr ext (.iface t (some (.int bits z))) = .ok (intToBytes z) ∧
    keyStr ext (.iface t (some (.str s))) = .ok s ∧
    keyStr ext (.int bits z) = .ok (intToBytes z) ∧ keyStr ext (.str s) = .ok s := by
  simp [keyStr, keyStrScalar, pure, Except.pure]

theorem C04_both_colliding_entries_visited (cfg : StructCfg) (pathOpen : Bytes) (t : Bytes) (v1 v2 : GoVal) (rest : Entries) (st : WSt) :
    entriesLoop cfg pathOpen (.cons (.iface t (some (.int 64 1))) v1 (.cons (.iface t (some (.str [49]))) v2 rest)) st
      = (validate cfg (pathOpen ++ [49] ++ [93]) v1 true (st.mark 1) >>= fun st1 =>
         validate cfg (pathOpen ++ [49] ++ [93]) v2 true (st1.mark 1) >>= fun st2 => entriesLoop cfg pathOpen rest st2) := by
  have h1 : keyStr cfg.ext (.iface t (some (.int 64 1))) = .ok [49] := by
    simp [keyStr, keyStrScalar, pure, Except.pure]
    try decide
  have h2 : keyStr cfg.ext (.iface t (some (.str [49]))) = .ok [49] := by
    simp [keyStr, keyStrScalar, pure, Except.pure]
  rw [C04_entry_paths cfg pathOpen [49] _ v1 _ st h1]
  congr 1
  all_goals (funext st1; rw [C04_entry_paths cfg pathOpen [49] _ v2 _ st1 h2])

/-! non-vacuity: a two-level object; the inner violation is reported under `Outer.In.A` -/
example :
    let inner : GoVal := .struct (b! "main.In") (b! "In") false (.cons (b! "A") true false [(b! "valid", b! "required")] (.str []) (.cons (b! "B") true false [] (.int 0 1) .nil))
    let outer : GoVal := .struct (b! "main.Outer") (b! "Outer") false (.cons (b! "In") true false [(b! "valid", b! "exist")] inner .nil)
    (match structValid { ext := fun _ => none } (.val (b! "main.Outer") outer) with
     | .ok o => o.err o.groups | _ => none)
      = some (b! "\"Outer.In.A\" input \"\", explain: it is required") := by decide +kernel

end PGV.Props.C04
