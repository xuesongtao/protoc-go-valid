import PGV.Props.C08
import PGV.Props.Facts.Alias
import PGV.Proofs.Frame

/-!
# C12 — a call's result depends only on its own arguments and stays fixed afterwards

Two kinds of shared state could carry information from one call to the next: the struct-type cache
(C08: transparent for every history) and the object pools.  Here: whatever validator object and
builder a call draws from the pools — anything a previous call may have left there — the result is
the result with fresh objects, provided the pools only hold *clean* objects; and every call puts
clean objects back.  So the invariant holds in every history and every call returns its fresh-state
result, whatever calls preceded it and in whatever order.
-/

namespace PGV.Props.C12
open PGV.Model.Cache

variable {RMap Fns Src : Type}

def freshObj : VObj RMap Fns := { tag := [], ruleMap := none, fns := none }

/-- a clean recycled object and an empty recycled builder are as good as new ones -/
theorem C12_pool_adversarial (emptyMap : RMap) (eval : List UInt8 → RMap → Fns → Src → List UInt8)
    (recycled : VObj RMap Fns) (buf : List UInt8) (c : Call RMap Fns Src)
    (ho : recycled.ruleMap = none) (hb : buf = []) :
    (exec emptyMap eval recycled buf c).1 = (exec emptyMap eval freshObj [] c).1 := by
  simp [exec, ho, hb, freshObj]

/-- every call returns clean objects to the pools (rule map cleared, builder reset) -/
theorem C12_returns_clean (emptyMap : RMap) (eval : List UInt8 → RMap → Fns → Src → List UInt8)
    (recycled : VObj RMap Fns) (buf : List UInt8) (c : Call RMap Fns Src) :
    (exec emptyMap eval recycled buf c).2.1.ruleMap = none ∧ (exec emptyMap eval recycled buf c).2.2 = [] := by
  simp [exec]

/-- a history of calls; before each call an adversary picks which pooled object and which pooled
builder it gets (`pick`), or a new one (`none`) -/
def runPool (emptyMap : RMap) (eval : List UInt8 → RMap → Fns → Src → List UInt8) :
    List (Call RMap Fns Src × Option Nat × Option Nat) → List (VObj RMap Fns) → List (List UInt8) →
      List (Option (List UInt8))
  | [], _, _ => []
  | (c, io, ib) :: rest, objs, bufs =>
    let o := (io.bind (objs[·]?)).getD freshObj
    let b := (ib.bind (bufs[·]?)).getD []
    let r := exec emptyMap eval o b c
    r.1 :: runPool emptyMap eval rest (r.2.1 :: objs) (r.2.2 :: bufs)

/-- whatever the adversary picks from a pool (or a new object) has the property every pooled object has -/
theorem pick_inv {α : Type} (P : α → Prop) (l : List α) (d : α) (hd : P d) (hl : ∀ x ∈ l, P x) (i : Option Nat) :
    P ((i.bind (l[·]?)).getD d) := by
  cases i with
  | none => exact hd
  | some i =>
    simp only [Option.bind_some]
    cases hg : l[i]? with
    | none => exact hd
    | some x => exact hl x (List.mem_of_getElem? hg)

/-- **history independence**: under every pool schedule, every call of every history returns what it
returns in a fresh process -/
theorem C12_history_independent (emptyMap : RMap) (eval : List UInt8 → RMap → Fns → Src → List UInt8)
    (h : List (Call RMap Fns Src × Option Nat × Option Nat)) (objs : List (VObj RMap Fns)) (bufs : List (List UInt8))
    (hinv : PoolInv objs bufs) :
    runPool emptyMap eval h objs bufs = h.map fun (c, _, _) => (exec emptyMap eval freshObj [] c).1 := by
  induction h generalizing objs bufs with
  | nil => rfl
  | cons x rest ih =>
    rcases x with ⟨c, io, ib⟩
    simp only [runPool, List.map_cons]
    congr 1
    · exact C12_pool_adversarial emptyMap eval _ _ c
        (pick_inv (·.ruleMap = none) objs freshObj rfl hinv.1 io) (pick_inv (· = []) bufs [] rfl hinv.2 ib)
    · have hc := C12_returns_clean emptyMap eval ((io.bind (objs[·]?)).getD freshObj) ((ib.bind (bufs[·]?)).getD []) c
      exact ih _ _ ⟨List.forall_mem_cons.mpr ⟨hc.1, hinv.1⟩, List.forall_mem_cons.mpr ⟨hc.2, hinv.2⟩⟩

/-- what a struct validation writes (text and group members) is the same whatever the builder already
holds: it is computed from the arguments alone and appended -/
theorem C12_writes_independent_of_buffer (cfg : PGV.Model.StructCfg) (name : PGV.Bytes) (v : PGV.Model.GoVal) (g : Bool)
    (st : PGV.Model.WSt) :
    PGV.Model.validate cfg name v g st = PGV.Proofs.Frame.lift st (PGV.Model.validate cfg name v g {}) :=
  PGV.Proofs.Frame.Frame_validate cfg name v g st

/-- at process start the pools are empty: the invariant holds -/
theorem C12_pool_inv_init : PoolInv ([] : List (VObj RMap Fns)) [] := by
  constructor <;> intro _ h <;> cases h

/-- the invariant is necessary: a builder that was not reset leaks the previous error into the next result -/
example : (exec (RMap := Unit) (Fns := Unit) (Src := Unit) () (fun _ _ _ _ => []) freshObj [120] ⟨[], [], (), ()⟩).1 = some [120]
    ∧ (exec (RMap := Unit) (Fns := Unit) (Src := Unit) () (fun _ _ _ _ => []) freshObj [] ⟨[], [], (), ()⟩).1 = none := by
  decide +kernel

/-- handed-out strings never alias a buffer that is written again: every zero-copy conversion in
package `valid` is applied to a buffer made in the same function, after its last write, outside
loops (re-extracted from the source on every run) -/
theorem C12_no_aliasing : PGV.Expected.aliasOK PGV.Generated.aliasFacts = true := PGV.Props.Facts.T2_alias

end PGV.Props.C12
