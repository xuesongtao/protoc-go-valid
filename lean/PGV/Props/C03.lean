import PGV.Proofs.Walker

/-!
# C03 — `required` means "present and non-empty"; every other rule skips empty values

For every configuration, field, value, continuation and state (no bound on anything):
* struct fields: `required` writes its clause exactly when the value is `requiredEmpty` (zero value,
  or slice/array/map of length 0); a supplied value gets no `required` clause (only the descent
  into nested objects, C04);
* `Var`/`Map`/`Url`: the same with each walker's notion of empty;
* every rule dispatched through a function table (built-in, registered, per-call) is skipped on a
  zero value;
* a `Map`/`Url` rule key that is absent from the input violates each `required` item of its rules.
-/

namespace PGV.Props.C03
open PGV PGV.Model PGV.Proofs.Walker

theorem C03_required_empty_struct (ext : Ext) (fns : FnTables) (scope sn fname : Bytes) (v : GoVal)
    (descend : Bool → Bool → Bytes → WSt → M WSt) (r : Bytes) (rs : List Bytes) (d : Bool) (st : WSt) (hr : r ≠ [])
    (hk : resolveFn fns (parseValidNameKV r).1 = .structural) (hreq : (parseValidNameKV r).1 = requiredB)
    (hz : requiredEmpty v = true) :
    fieldRules ext fns scope sn fname v descend (r :: rs) d st
      = fieldRules ext fns scope sn fname v descend rs true
          (st.write (requiredClause sn fname (parseValidNameKV r).2.2)) :=
  fieldRules_required_empty ext fns scope sn fname v descend r rs d st hr hk hreq hz

theorem C03_required_supplied_struct (ext : Ext) (fns : FnTables) (scope sn fname : Bytes) (v : GoVal)
    (descend : Bool → Bool → Bytes → WSt → M WSt) (r : Bytes) (rs : List Bytes) (d : Bool) (st : WSt) (hr : r ≠ [])
    (hk : resolveFn fns (parseValidNameKV r).1 = .structural) (hreq : (parseValidNameKV r).1 = requiredB)
    (hz : requiredEmpty v = false) :
    fieldRules ext fns scope sn fname v descend (r :: rs) d st
      = (descend false d (parseValidNameKV r).2.2 st >>= fun st' =>
          fieldRules ext fns scope sn fname v descend rs true st') :=
  fieldRules_required_supplied ext fns scope sn fname v descend r rs d st hr hk hreq hz

/-- what `required` descends into for a supplied scalar (incl. a non-nil pointer to a scalar): nothing is written -/
theorem C03_supplied_scalar_no_clause (cfg : StructCfg) (sn fname cus : Bytes) (skip : Bool) (st : WSt) (s : Bytes) (hs : s ≠ []) :
    existTop cfg sn fname (.str s) false skip cus st = pure st := by
  rw [existTop, isEmpty_false hs]; rfl

theorem C03_supplied_ptr_scalar_no_clause (cfg : StructCfg) (sn fname cus t : Bytes) (skip : Bool) (st : WSt) (bits : Nat) (z : Int) :
    existTop cfg sn fname (.ptr t (some (.int bits z))) false skip cus st = pure st := by
  rw [existTop, existStripped]; rfl

theorem C03_zero_skip_struct_builtin (ext : Ext) (fns : FnTables) (scope sn fname : Bytes) (v : GoVal)
    (descend : Bool → Bool → Bytes → WSt → M WSt) (r : Bytes) (run) (rs : List Bytes) (d : Bool) (st : WSt) (hr : r ≠ [])
    (hk : resolveFn fns (parseValidNameKV r).1 = .builtin run) (hz : v.isZero = true) :
    fieldRules ext fns scope sn fname v descend (r :: rs) d st
      = fieldRules ext fns scope sn fname v descend rs d st :=
  fieldRules_builtin_zero ext fns scope sn fname v descend r run rs d st hr hk hz

theorem C03_zero_skip_struct_custom (ext : Ext) (fns : FnTables) (scope sn fname : Bytes) (v : GoVal)
    (descend : Bool → Bool → Bytes → WSt → M WSt) (r mk : Bytes) (rs : List Bytes) (d : Bool) (st : WSt) (hr : r ≠ [])
    (hk : resolveFn fns (parseValidNameKV r).1 = .custom mk) (hz : v.isZero = true) :
    fieldRules ext fns scope sn fname v descend (r :: rs) d st
      = fieldRules ext fns scope sn fname v descend rs d st :=
  fieldRules_custom_zero ext fns scope sn fname v descend r mk rs d st hr hk hz

theorem C03_required_flat (c : FlatCfg) (scope ne nc : Bytes) (v : GoVal) (r : Bytes) (rs : List Bytes) (st : WSt)
    (hr : r ≠ []) (hk : resolveFn c.fns (parseValidNameKV r).1 = .structural)
    (hreq : (parseValidNameKV r).1 = requiredB) :
    flatRules c scope ne nc v (r :: rs) st
      = flatRules c scope ne nc v rs
          (if c.requiredViolated v then st.write (requiredClause [] nc (parseValidNameKV r).2.2) else st) :=
  flatRules_required c scope ne nc v r rs st hr hk hreq

theorem C03_zero_skip_flat_builtin (c : FlatCfg) (scope ne nc : Bytes) (v : GoVal) (r : Bytes) (run) (rs : List Bytes)
    (st : WSt) (hr : r ≠ []) (hk : resolveFn c.fns (parseValidNameKV r).1 = .builtin run) (hz : c.isEmpty v = true) :
    flatRules c scope ne nc v (r :: rs) st = flatRules c scope ne nc v rs st :=
  flatRules_builtin_zero c scope ne nc v r run rs st hr hk hz

theorem C03_zero_skip_flat_custom (c : FlatCfg) (scope ne nc : Bytes) (v : GoVal) (r mk : Bytes) (rs : List Bytes)
    (st : WSt) (hr : r ≠ []) (hk : resolveFn c.fns (parseValidNameKV r).1 = .custom mk) (hz : c.isEmpty v = true) :
    flatRules c scope ne nc v (r :: rs) st = flatRules c scope ne nc v rs st :=
  flatRules_custom_zero c scope ne nc v r mk rs st hr hk hz

/-- a rule item that is dispatched through a function table (built-in, registered or per-call) or is empty -/
def tableItem (fns : FnTables) (r : Bytes) : Prop :=
  r = [] ∨ (∃ run, resolveFn fns (parseValidNameKV r).1 = .builtin run) ∨ (∃ mk, resolveFn fns (parseValidNameKV r).1 = .custom mk)

/-- **an optional value left empty never produces an error, whatever table rules are attached to it,
in whatever number and order** (`Var` / `Map` / `Url`): the whole rule loop leaves the state unchanged -/
theorem C03_optional_empty_silent_flat (c : FlatCfg) (scope ne nc : Bytes) (v : GoVal) (rs : List Bytes) (st : WSt)
    (hz : c.isEmpty v = true) (hrs : ∀ r ∈ rs, tableItem c.fns r) :
    flatRules c scope ne nc v rs st = pure st := by
  induction rs with
  | nil => exact flatRules_nil c scope ne nc v st
  | cons r rs ih =>
    have step : flatStep c scope ne nc v r st = pure st := by
      rcases hrs r (by simp) with h | ⟨run, h⟩ | ⟨mk, h⟩ <;> simp [flatStep, h, hz]
    rw [flatRules_cons, step]
    exact ih fun x hx => hrs x (List.mem_cons_of_mem _ hx)

/-- the same for a struct field whose value is the zero value -/
theorem C03_optional_empty_silent_struct (ext : Ext) (fns : FnTables) (scope sn fname : Bytes) (v : GoVal)
    (descend : Bool → Bool → Bytes → WSt → M WSt) (rs : List Bytes) (d : Bool) (st : WSt)
    (hz : v.isZero = true) (hrs : ∀ r ∈ rs, tableItem fns r) :
    fieldRules ext fns scope sn fname v descend rs d st = pure st := by
  induction rs with
  | nil => exact fieldRules_nil ext fns scope sn fname v descend d st
  | cons r rs ih =>
    have step : fieldStep ext fns scope sn fname v descend d r st = pure st
        ∧ PGV.Spec.Clauses.descAfter fns d r = d := by
      rcases hrs r (by simp) with h | ⟨run, h⟩ | ⟨mk, h⟩ <;> simp [fieldStep, PGV.Spec.Clauses.descAfter, h, hz]
    rw [fieldRules_cons, step.1, step.2]
    exact ih fun x hx => hrs x (List.mem_cons_of_mem _ hx)

-- the hypotheses are satisfiable: three table rules (one with a message, one empty item) on an empty string
example : tableItem {} (b! "phone") ∧ tableItem {} (b! "to=1~3|too long") ∧ tableItem {} [] ∧ (GoVal.str []).isZero = true := by
  exact ⟨Or.inr (Or.inl ⟨_, rfl⟩), Or.inr (Or.inl ⟨_, rfl⟩), Or.inl rfl, rfl⟩

/-- a rule key that is absent from the input contributes one `required` clause per `required` item of
its rule list, and nothing else; a key that is present contributes nothing here -/
theorem C03_missing_entry (rm : RM) (present : List Bytes) (nameOf : Bytes → Bytes) :
    missingClauses rm present nameOf
      = (sortedRuleKeys rm).flatMap fun key =>
          if present.contains key then []
          else (validNamesSplit (rmGet rm key)).flatMap fun r =>
            if (parseValidNameKV r).1 == requiredB then requiredClause [] (nameOf key) (parseValidNameKV r).2.2 else [] := by
  unfold missingClauses
  rfl

/-! non-vacuity -/
example : requiredEmpty (.slice (b! "[]int") (b! "int") false .nil) = true
    ∧ requiredEmpty (.ptr (b! "*int") (some (.int 0 0))) = false
    ∧ requiredEmpty (.str (b! " ")) = false := by decide +kernel

/-- `Map`: the key `a` is missing, `required|need a` is reported under `map[a]` -/
example : missingClauses [(b! "a", b! "to=1~2,required|need a")] [b! "b"] (mapGetKey [])
    = b! "\"map[a]\" input \"\", explain: need a; " := by decide +kernel

end PGV.Props.C03
