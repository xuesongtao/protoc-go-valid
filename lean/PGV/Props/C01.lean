import PGV.Props.Facts.RuleTable
import PGV.Proofs.Size
import PGV.Proofs.Atoi
import PGV.Proofs.LangEq
import PGV.Proofs.Total
import PGV.Proofs.RuleText

/-!
# C01 — size / comparison rules judge by the documented measure with exact boundaries

For every rule text whose key is one of `to ge le oto gt lt eq noeq` and whose argument reads as
integer bounds, and every value that has a measure (string: rune count; signed / unsigned /
floating-point number: numeric value; slice: length), the rule function writes a clause exactly
when the measure lies outside the set the rule states.  No bound on widths, bounds or values.
Floats: under `boundsExact` (|bound| < 2^53, where `float64(bound)` is exact) — outside that window
the statement is false of the code (known finding F-C01-e, witnessed below).
-/

namespace PGV.Props.C01
open PGV PGV.Model PGV.Spec.Size PGV.Proofs.Size

theorem C01_bound_verdict (text key arg msg obj field : Bytes) (v : GoVal) (isMin hasEqual : Bool)
    (lo : Int) (m : Measure)
    (hp : parseValidNameKV text = (key, arg, msg))
    (hb : parseBounds (boundRule isMin hasEqual) arg = some (lo, 0))
    (hm : measure v = some m) (hx : boundsExact v lo 0 = true) :
    (ruleBound text obj field v isMin hasEqual ≠ []) ↔ inSet (boundRule isMin hasEqual) lo 0 m = false := by
  obtain ⟨rfl, -⟩ := parseBounds_single (by cases isMin <;> cases hasEqual <;> rfl) hb
  have hmin := (validInputSize_cmp v hasEqual _ 0 m hm hx).1
  have hmax := (validInputSize_cmp v hasEqual 0 _ m hm (boundsExact_comm .. ▸ hx)).2
  unfold ruleBound
  simp only [hp]
  cases isMin <;> cases hasEqual <;> simp [hmin, hmax, violClause_ne_nil, boundRule, inSet]

/-- `to` / `oto` -/
theorem C01_range_verdict (ext : Ext) (text key arg msg obj field : Bytes) (v : GoVal) (hasEqual : Bool)
    (lo hi : Int) (m : Measure)
    (hp : parseValidNameKV text = (key, arg, msg))
    (hb : parseBounds (rangeRule hasEqual) arg = some (lo, hi))
    (hm : Spec.Size.measure v = some m) (hx : boundsExact v lo hi = true) :
    ∃ out, ruleTo ext text obj field v hasEqual = .ok out ∧
      (out ≠ [] ↔ inSet (rangeRule hasEqual) lo hi m = false) := by
  have hpt := parseBounds_range (by cases hasEqual <;> rfl) hb ext hasEqual
  obtain ⟨hl, hh⟩ := validInputSize_cmp v hasEqual lo hi m hm hx
  have hin : inSet (rangeRule hasEqual) lo hi m =
      (!(validInputSize lo hi v hasEqual).less && !(validInputSize lo hi v hasEqual).more) := by
    cases hasEqual <;> simp [hl, hh, rangeRule, inSet, bne]
  unfold ruleTo
  simp only [hp, hpt, hin, bind, Except.bind, pure, Except.pure]
  cases (validInputSize lo hi v hasEqual).less <;> cases (validInputSize lo hi v hasEqual).more <;>
    exact ⟨_, rfl, by simp [violClause_ne_nil]⟩

/-- `eq` / `noeq` -/
theorem C01_eq_verdict (ext : Ext) (text key arg msg obj field : Bytes) (v : GoVal) (wantEq : Bool) (lo : Int) (m : Measure)
    (hp : parseValidNameKV text = (key, arg, msg))
    (hb : parseBounds (eqRule wantEq) arg = some (lo, 0))
    (hm : Spec.Size.measure v = some m) (hx : boundsExact v lo 0 = true) :
    match ruleEq ext text obj field v wantEq with
    | .ok out => (out ≠ [] ↔ inSet (eqRule wantEq) lo 0 m = false)
    | .error (.unmodelled _) => inSet (eqRule wantEq) lo 0 m = false
    | .error (.need _) => inSet (eqRule wantEq) lo 0 m = false
    | .error _ => False := by
  obtain ⟨rfl, -⟩ := parseBounds_single (by cases wantEq <;> rfl) hb
  have hc := eqCore_cmp text key arg msg v m hp hm hx
  unfold ruleEq
  revert hc
  rcases eqCore text v with ⟨eqStr, unit, cus, isEq⟩
  rintro rfl
  have hs : inSet (eqRule wantEq) (atoi arg).1 0 m = ((cmp m (atoi arg).1 == .eq) == wantEq) := by
    cases wantEq <;> simp only [eqRule, inSet] <;> cases cmp m (atoi arg).1 <;> rfl
  simp only [hs, bind, Except.bind, pure, Except.pure]
  cases ((cmp m (atoi arg).1 == .eq) == wantEq)
  · have np := (PGV.Proofs.Total.NP_toStrIface ext v).np
    rcases h : toStrIface ext v with (w | q | w) | s
    · exact np w h
    all_goals simp [violClause_ne_nil]
  · simp

/-- what "the rule is violated" means for a run of a rule function on the model: it wrote a clause.
`unmodelled` / `need` = the verdict is "violated" but the clause text needs `fmt %v` of a composite
(a residual answered by the standard library, or not nameable on the wire) -/
def Judged (res : M Bytes) (violated : Prop) : Prop :=
  match res with
  | .ok out => (out ≠ [] ↔ violated)
  | .error (.unmodelled _) => violated
  | .error (.need _) => violated
  | .error _ => False

def _root_.PGV.Spec.Size.SizeRule.key : SizeRule → Bytes
  | .to => b! "to" | .ge => b! "ge" | .le => b! "le" | .oto => b! "oto"
  | .gt => b! "gt" | .lt => b! "lt" | .eq => b! "eq" | .noeq => b! "noeq"

def _root_.PGV.Spec.Size.SizeRule.isRange (r : SizeRule) : Bool := r == .to || r == .oto

/-- `ofKey` reads back the keys of `SizeRule.key` and nothing else -/
theorem ofKey_eq_some {k : Bytes} {r : SizeRule} (h : SizeRule.ofKey k = some r) : k = r.key := by
  have step {x : SizeRule} {a : Bytes} {rest : Option SizeRule} (h : (if k == a then some x else rest) = some r) :
      k = a ∧ x = r ∨ rest = some r := by
    split at h
    · exact .inl ⟨eq_of_beq ‹_›, Option.some.inj h⟩
    · exact .inr h
  unfold SizeRule.ofKey at h
  repeat obtain ⟨rfl, rfl⟩ | h := step h; rfl
  cases h

theorem C01_verdict (ext : Ext) (text obj field : Bytes) (v : GoVal) (r : SizeRule) (lo hi : Int) (m : Measure)
    (hk : SizeRule.ofKey (parseValidNameKV text).1 = some r)
    (hb : parseBounds r (parseValidNameKV text).2.1 = some (lo, hi))
    (hm : Spec.Size.measure v = some m) (hx : boundsExact v lo hi = true) :
    ∃ run, builtin (parseValidNameKV text).1 = some (.fn run) ∧
      Judged (run ext text obj field v) (inSet r lo hi m = false) := by
  rw [ofKey_eq_some hk]
  have single (h : r.isRange = false) : hi = 0 := (parseBounds_single h hb).2
  have range (he : Bool) (hb : parseBounds (rangeRule he) (parseValidNameKV text).2.1 = some (lo, hi)) :
      Judged (ruleTo ext text obj field v he) (inSet (rangeRule he) lo hi m = false) := by
    obtain ⟨out, ho, hiff⟩ := C01_range_verdict ext text _ _ _ obj field v he lo hi m rfl hb hm hx
    rw [ho]; exact hiff
  cases r
  case to => exact ⟨_, rfl, range true hb⟩
  case oto => exact ⟨_, rfl, range false hb⟩
  all_goals cases single rfl
  case ge => exact ⟨_, rfl, C01_bound_verdict text _ _ _ obj field v true true lo m rfl hb hm hx⟩
  case gt => exact ⟨_, rfl, C01_bound_verdict text _ _ _ obj field v true false lo m rfl hb hm hx⟩
  case le => exact ⟨_, rfl, C01_bound_verdict text _ _ _ obj field v false true lo m rfl hb hm hx⟩
  case lt => exact ⟨_, rfl, C01_bound_verdict text _ _ _ obj field v false false lo m rfl hb hm hx⟩
  case eq => exact ⟨_, rfl, C01_eq_verdict ext text _ _ _ obj field v true lo m rfl hb hm hx⟩
  case noeq => exact ⟨_, rfl, C01_eq_verdict ext text _ _ _ obj field v false lo m rfl hb hm hx⟩

/-! ### the statement over rule *texts*: `key=lo`, `key=lo~hi`, with or without `|message` -/

/-- the bounds written in decimal, as a tag author writes them -/
def boundsText (r : SizeRule) (lo hi : Int) : Bytes :=
  if r.isRange then intToBytes lo ++ (126 : UInt8) :: intToBytes hi else intToBytes lo

/-- the rule text of the documented shape; `msg = []` means no custom message -/
def ruleText (r : SizeRule) (lo hi : Int) (msg : Bytes) : Bytes :=
  r.key ++ EQ :: (if msg = [] then boundsText r lo hi else boundsText r lo hi ++ BAR :: msg)

theorem intToBytes_chars (z : Int) : ∀ c ∈ intToBytes z, c = 45 ∨ Lang.isDigit c = true := by
  intro c hc
  have hd := (PGV.Proofs.Atoi.natToBytes_spec z.natAbs).2.1
  rw [List.all_eq_true] at hd
  unfold intToBytes at hc
  split at hc
  · rcases List.mem_cons.mp hc with h | h
    · exact Or.inl h
    · exact Or.inr (hd c h)
  · exact Or.inr (hd c hc)

theorem intToBytes_no (z : Int) (c : UInt8) (h45 : c ≠ 45) (hd : Lang.isDigit c = false) : c ∉ intToBytes z := by
  intro hc
  rcases intToBytes_chars z c hc with h | h
  · exact h45 h
  · rw [hd] at h; cases h

theorem boundsText_noBar (r : SizeRule) (lo hi : Int) : BAR ∉ boundsText r lo hi := by
  unfold boundsText
  split
  · intro h
    rcases List.mem_append.mp h with h | h
    · exact intToBytes_no lo BAR (by decide) (by decide) h
    · rcases List.mem_cons.mp h with h | h
      · exact absurd h (by decide)
      · exact intToBytes_no hi BAR (by decide) (by decide) h
  · exact intToBytes_no lo BAR (by decide) (by decide)

theorem parseBounds_boundsText (r : SizeRule) (lo hi : Int)
    (l1 : int64Min ≤ lo) (l2 : lo ≤ int64Max) (h1 : int64Min ≤ hi) (h2 : hi ≤ int64Max) :
    parseBounds r (boundsText r lo hi) = some (lo, if r.isRange then hi else 0) := by
  unfold parseBounds boundsText SizeRule.isRange
  by_cases hr : (r == .to || r == .oto) = true
  · simp only [hr, if_true]
    rw [PGV.Proofs.LangEq.splitByte_append 126 _ _ (intToBytes_no lo 126 (by decide) (by decide)),
      PGV.Proofs.LangEq.splitByte_not_mem 126 _ (intToBytes_no hi 126 (by decide) (by decide))]
    simp only [PGV.Proofs.Atoi.atoi_intToBytes lo l1 l2, PGV.Proofs.Atoi.atoi_intToBytes hi h1 h2]
    rfl
  · simp only [hr, Bool.false_eq_true, if_false]
    simp only [PGV.Proofs.Atoi.atoi_intToBytes lo l1 l2]
    rfl

theorem parse_ruleText (r : SizeRule) (lo hi : Int) (msg : Bytes) :
    (parseValidNameKV (ruleText r lo hi msg)).1 = r.key ∧
    (parseValidNameKV (ruleText r lo hi msg)).2.1 = boundsText r lo hi := by
  have hw : r.key.all Spec.Lang.wordc = true := by cases r <;> rfl
  have he : EQ ∉ r.key := PGV.Proofs.LangEq.not_mem_of_all _ _ _ hw (by decide)
  have hb : BAR ∉ r.key := PGV.Proofs.LangEq.not_mem_of_all _ _ _ hw (by decide)
  unfold ruleText
  by_cases hm : msg = []
  · simp only [hm, if_true]
    rw [PGV.Proofs.RuleText.parse_key_val _ _ he hb (boundsText_noBar r lo hi)]
    exact ⟨rfl, rfl⟩
  · simp only [hm, if_false]
    rw [PGV.Proofs.RuleText.parse_key_val_msg _ _ _ he hb (boundsText_noBar r lo hi) hm]
    exact ⟨rfl, rfl⟩

/-- **C01 over rule texts.**  For each of the eight rules, every pair of 64-bit integer bounds
written in decimal, with or without a custom message, and every value that has a measure: the
registered rule function, run on the text `key=lo[~hi][|msg]`, writes a clause exactly when the
measure lies outside the set the rule states. -/
theorem C01_verdict_text (ext : Ext) (obj field msg : Bytes) (v : GoVal) (r : SizeRule) (lo hi : Int) (m : Measure)
    (l1 : int64Min ≤ lo) (l2 : lo ≤ int64Max) (h1 : int64Min ≤ hi) (h2 : hi ≤ int64Max)
    (hm : Spec.Size.measure v = some m) (hx : boundsExact v lo (if r.isRange then hi else 0) = true) :
    ∃ run, builtin r.key = some (.fn run) ∧
      Judged (run ext (ruleText r lo hi msg) obj field v) (inSet r lo (if r.isRange then hi else 0) m = false) := by
  obtain ⟨pk, pa⟩ := parse_ruleText r lo hi msg
  have hk : SizeRule.ofKey (parseValidNameKV (ruleText r lo hi msg)).1 = some r := by
    rw [pk]; cases r <;> decide
  have hb : parseBounds r (parseValidNameKV (ruleText r lo hi msg)).2.1 = some (lo, if r.isRange then hi else 0) := by
    rw [pa]; exact parseBounds_boundsText r lo hi l1 l2 h1 h2
  have := C01_verdict ext (ruleText r lo hi msg) obj field v r lo _ m hk hb hm hx
  rw [pk] at this
  exact this

-- the texts are the ones a tag author writes
example : ruleText .to 1 10 (b! "bad") = b! "to=1~10|bad" := by decide +kernel
example : ruleText .noeq (-3) 0 [] = b! "noeq=-3" := by decide +kernel
example : ruleText .oto (-9223372036854775808) 9223372036854775807 [] = b! "oto=-9223372036854775808~9223372036854775807" := by decide +kernel

/-- the verdict depends on the value only through its measure: integer width, signedness, and the
kind carrying the measure are irrelevant (e.g. `int8 5`, `uint64 5`, a 5-rune string, a slice of
length 5 get the same verdict from every rule) -/
theorem C01_width_signedness_indep (ext : Ext) (text obj field : Bytes) (v₁ v₂ : GoVal) (r : SizeRule)
    (lo hi : Int) (m : Measure)
    (hk : SizeRule.ofKey (parseValidNameKV text).1 = some r)
    (hb : parseBounds r (parseValidNameKV text).2.1 = some (lo, hi))
    (hm₁ : Spec.Size.measure v₁ = some m) (hm₂ : Spec.Size.measure v₂ = some m)
    (hx₁ : boundsExact v₁ lo hi = true) (hx₂ : boundsExact v₂ lo hi = true) :
    ∃ run, builtin (parseValidNameKV text).1 = some (.fn run) ∧
      ∀ out₁ out₂, run ext text obj field v₁ = .ok out₁ → run ext text obj field v₂ = .ok out₂ →
        (out₁ ≠ [] ↔ out₂ ≠ []) := by
  obtain ⟨run, hrun, h1⟩ := C01_verdict ext text obj field v₁ r lo hi m hk hb hm₁ hx₁
  obtain ⟨run', hrun', h2⟩ := C01_verdict ext text obj field v₂ r lo hi m hk hb hm₂ hx₂
  rw [hrun] at hrun'; cases hrun'
  refine ⟨run, hrun, ?_⟩
  intro o1 o2 e1 e2
  simp only [Judged, e1] at h1
  simp only [Judged, e2] at h2
  rw [h1, h2]

/-! ### non-vacuity: concrete values meet the hypotheses and sit exactly on exclusive bounds -/

def wrote (r : M Bytes) : Option Bool := match r with | .ok o => some (!o.isEmpty) | _ => none

/-- a 3-rune CJK string (9 bytes) under `oto=3~5`: the bound itself is excluded → violated -/
example : wrote (ruleTo (fun _ => none) (b! "oto=3~5") [] [] (.str (b! "中文字")) false) = some true := by decide +kernel
example : inSet .oto 3 5 (.int 3) = false := by decide +kernel
/-- … and under `oto=2~4` it passes -/
example : wrote (ruleTo (fun _ => none) (b! "oto=2~4") [] [] (.str (b! "中文字")) false) = some false := by decide +kernel
/-- `uint8 5` under `gt=5` is violated; `int8 -128` under `ge=-128` passes; negative bound on unsigned -/
example : ruleBound (b! "gt=5") [] [] (.uint 8 5) true false ≠ [] := by decide +kernel
example : ruleBound (b! "ge=-128") [] [] (.int 8 (-128)) true true = [] := by decide +kernel
example : ruleBound (b! "ge=-1") [] [] (.uint 8 5) true true = [] := by decide +kernel
example : SizeRule.ofKey (parseValidNameKV (b! "gt=5|msg")).1 = some .gt
    ∧ parseBounds .gt (parseValidNameKV (b! "gt=5|msg")).2.1 = some (5, 0)
    ∧ Spec.Size.measure (.uint 8 5) = some (.int 5) ∧ boundsExact (.uint 8 5) 5 0 = true := by decide +kernel

/-! ### known finding F-C01-e: outside the `boundsExact` window the statement is false of the code

`float64(2^53)` passes `ge=9007199254740993` (= 2^53 + 1): `float64(bound)` rounds to 2^53. -/
theorem F_C01_e_witness :
    ruleBound (b! "ge=9007199254740993") [] [] (.float 64 (.fin (2 ^ 52) 1) [] []) true true = []
      ∧ inSet .ge 9007199254740993 0 (.real (.fin (2 ^ 52) 1)) = false
      ∧ boundsExact (.float 64 (.fin (2 ^ 52) 1) [] []) 9007199254740993 0 = false := by decide +kernel


/-- the code's rule table `validName2FnMap` binds every rule name to the function the model's table
binds it to, and has exactly the model's rule names (re-extracted from the source on every run) -/
theorem C01_rule_table : PGV.Expected.ruleTableOK PGV.Generated.ruleTable = true ∧ PGV.Expected.modelKeysOK PGV.Generated.ruleKeys = true :=
  ⟨PGV.Props.Facts.T2_rule_table, PGV.Props.Facts.T2_model_keys⟩

end PGV.Props.C01
