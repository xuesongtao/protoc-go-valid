import PGV.Proofs.Inject

/-!
# C06 — tag injection merges comment tags into struct tags and changes nothing else
-/

namespace PGV.Props.C06
open PGV PGV.Model PGV.Model.Inject PGV.Spec.Inject PGV.Proofs.Inject

/-- the code's key-wise merge is the specified one whenever neither the literal nor the comment repeats a key -/
theorem C06_override_is_merge (old inj : TagItems) (h1 : (keys old).Nodup) (h2 : (keys inj).Nodup) :
    override old inj = merge old inj := override_eq_merge old inj h1 h2

/-- every key of the comment carries exactly the comment's value afterwards -/
theorem C06_merge_lookup_new (old inj : TagItems) (k : Bytes) (hk : k ∈ keys inj) :
    lookup k (merge old inj) = lookup k inj := merge_lookup_new old inj k hk

/-- every key the field already had keeps its position; one the comment does not mention keeps its value too -/
theorem C06_merge_keeps_old (old inj : TagItems) (i : Nat) (o : TagItem) (h : old[i]? = some o) :
    (merge old inj)[i]? = some (upd inj o) ∧ (o.key ∉ keys inj → upd inj o = o) ∧ (upd inj o).key = o.key := by
  have hi : i < old.length := (List.getElem?_eq_some_iff.mp h).1
  exact ⟨by rw [merge_positions old inj i hi, h]; rfl, upd_unmentioned inj o, upd_key inj o⟩

/-- new keys are appended after the existing ones, in comment order -/
theorem C06_merge_appends (old inj : TagItems) :
    merge old inj = old.map (upd inj) ++ inj.filter (fun i => !(keys old).contains i.key) := merge_def old inj

/-- no key is duplicated -/
theorem C06_merge_nodup (old inj : TagItems) (h1 : (keys old).Nodup) (h2 : (keys inj).Nodup) :
    (keys (merge old inj)).Nodup := merge_nodup old inj h1 h2

/-- **the file**: for every file — any number of annotated tag literals anywhere, any bytes in
between — `WriteFile` (areas applied from the end backwards) returns the file in which exactly the
annotated literals carry the merged tags -/
theorem C06_file (cs : List Chunk) (areas : List Area) (hm : AreasMatch 0 cs areas) (hd : ∀ c ∈ cs, c.distinctKeys) :
    writeFile (render cs) areas = .ok (render (Spec.Inject.inject cs)) := by
  rw [writeFile_chunks cs areas hm, injectWith_override_eq cs hd]

/-- every byte outside the annotated literals is unchanged: the plain chunks are the same chunks -/
theorem C06_outside_unchanged (cs : List Chunk) :
    (Spec.Inject.inject cs).map (fun c => match c with | .plain bs => some bs | .tagged _ _ => none)
      = cs.map (fun c => match c with | .plain bs => some bs | .tagged _ _ => none) := by
  rw [Spec.Inject.inject, injectWith, List.map_map]
  exact List.map_congr_left fun c _ => by cases c <;> rfl

/-! non-vacuity -/
example : override (newTagItems (b! "json:\"id,omitempty\" form:\"id\"")) (newTagItems (b! "valid:\"required\" json:\"id\""))
    = [⟨b! "json", b! "\"id\""⟩, ⟨b! "form", b! "\"id\""⟩, ⟨b! "valid", b! "\"required\""⟩] := by decide

example :
    let cs : List Chunk := [.plain (b! "type T struct {\n\tA int "), .tagged (b! "json:\"a\"") (b! "valid:\"required\""),
      .plain (b! " // @tag valid:\"required\"\n\tB int "), .tagged (b! "json:\"b\"") (b! "json:\"bb\""), .plain (b! " // @tag json:\"bb\"\n}\n")]
    (match writeFile (render cs) (areasOf 0 cs) with | .ok out => some out | _ => none)
      = some (b! "type T struct {\n\tA int `json:\"a\" valid:\"required\"` // @tag valid:\"required\"\n\tB int `json:\"bb\"` // @tag json:\"bb\"\n}\n") := by
  decide

end PGV.Props.C06
