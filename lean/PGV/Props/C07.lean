import PGV.Proofs.Inject
import PGV.Proofs.TagScan

/-!
# C07 — tag injection is idempotent
-/

namespace PGV.Props.C07
open PGV PGV.Model PGV.Model.Inject PGV.Spec.Inject PGV.Proofs.Inject

/-- merging the same comment into an already merged tag changes nothing -/
theorem C07_merge_idem (old inj : TagItems) (hnd : (keys inj).Nodup) :
    merge (merge old inj) inj = merge old inj := merge_idem old inj hnd

/-- re-reading the literal the injector wrote gives back the merged items -/
def Chunk.rereads : Chunk → Prop
  | .plain _ => True
  | .tagged text inj =>
    newTagItems (newTextWith merge text inj) = merge (newTagItems text) (newTagItems inj) ∧ (keys (newTagItems inj)).Nodup

/-- **the file**: injecting into an injected file leaves every chunk as it is -/
theorem C07_file_idem (cs : List Chunk) (h : ∀ c ∈ cs, Chunk.rereads c) :
    Spec.Inject.inject (Spec.Inject.inject cs) = Spec.Inject.inject cs := by
  simp only [Spec.Inject.inject, injectWith, List.map_map]
  refine List.map_congr_left fun c hc => ?_
  cases c with
  | plain bs => rfl
  | tagged text inj =>
    obtain ⟨h1, h2⟩ := h _ hc
    show Chunk.tagged (format (merge (newTagItems (newTextWith merge text inj)) _)) inj = _
    rw [h1, merge_idem _ _ h2]; rfl

/-- `n` runs in a row -/
def runs : Nat → List Chunk → List Chunk
  | 0, cs => cs
  | n + 1, cs => Spec.Inject.inject (runs n cs)

/-- any number of runs: after the first nothing changes any more -/
theorem C07_iterate (cs : List Chunk) (h : ∀ c ∈ cs, Chunk.rereads c) (n : Nat) :
    runs (n + 1) cs = Spec.Inject.inject cs := by
  induction n with
  | zero => rfl
  | succ n ih =>
    show Spec.Inject.inject (runs (n + 1) cs) = _
    rw [ih, C07_file_idem cs h]

/-- re-reading is never an extra assumption: whatever the literal and the comment contain, the scanner
reads the rewritten literal back as exactly the merged items (`newTagItems ∘ format = id` on items in
conventional form, and the scanner only ever produces such items) -/
theorem C07_rereads (text inj : Bytes) (hnd : (keys (newTagItems inj)).Nodup) : Chunk.rereads (.tagged text inj) := by
  refine ⟨?_, hnd⟩
  unfold newTextWith
  exact PGV.Proofs.TagScan.newTagItems_format _
    (PGV.Proofs.TagScan.merge_wf _ _ (PGV.Proofs.TagScan.newTagItems_wf text) (PGV.Proofs.TagScan.newTagItems_wf inj))

/-- the comment of an annotated field does not repeat a key -/
def Chunk.distinctComment : Chunk → Prop
  | .plain _ => True
  | .tagged _ inj => (keys (newTagItems inj)).Nodup

theorem rereads_of_distinctComment : ∀ c, Chunk.distinctComment c → Chunk.rereads c
  | .plain _, _ => trivial
  | .tagged text inj, h => C07_rereads text inj h

/-- **idempotence of the file transformer**, for every file whose comments do not repeat a key: any
tag literals, any bytes in between, any number of annotated fields -/
theorem C07_file_idempotent (cs : List Chunk) (h : ∀ c ∈ cs, Chunk.distinctComment c) :
    Spec.Inject.inject (Spec.Inject.inject cs) = Spec.Inject.inject cs :=
  C07_file_idem cs fun c hc => rereads_of_distinctComment c (h c hc)

theorem C07_any_number_of_runs (cs : List Chunk) (h : ∀ c ∈ cs, Chunk.distinctComment c) (n : Nat) :
    runs (n + 1) cs = Spec.Inject.inject cs :=
  C07_iterate cs (fun c hc => rereads_of_distinctComment c (h c hc)) n

/-- a file without annotations is written back unchanged -/
theorem C07_no_annotation_identity (contents : Bytes) : writeFile contents [] = .ok contents := rfl

example : Chunk.rereads (.tagged (b! "json:\"id,omitempty\" form:\"id\"") (b! "valid:\"required\" json:\"id\"")) := by
  unfold Chunk.rereads; decide

end PGV.Props.C07
