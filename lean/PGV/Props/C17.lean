import PGV.Proofs.Walker

/-!
# C17 — `either` / `botheq` groups are judged per object
-/

namespace PGV.Props.C17
open PGV PGV.Model PGV.Proofs.Walker

/-- an `either` group with at least two members is violated exactly when all members are empty, and
then yields one clause -/
theorem C17_either_iff (m1 m2 : Member) (ms : List Member) :
    eitherClause (m1 :: m2 :: ms) ≠ [] ↔ ∀ m ∈ m1 :: m2 :: ms, m.val.isZero = true := by
  simp [eitherClause, errEndFlag]

/-- a group with a single member is a rule-writing error: one clause -/
theorem C17_singleton_either (m : Member) :
    eitherClause [m] = getJoinFieldErr m.objName m.fieldName eitherValErr := rfl

theorem C17_singleton_botheq (ext : Ext) (m : Member) :
    bothEqClause ext [m] = pure (getJoinFieldErr m.objName m.fieldName bothEqValErr) := rfl

theorem deepEq_scalar (ext : Ext) (a c : GoVal) (r : Bool) (h : deepEqScalar a c = some r) : deepEq ext a c = pure r := by
  unfold deepEq; rw [h]

theorem mapM_deepEq (ext : Ext) (m0 : Member) (l : List Member) (eqs : List Bool)
    (h : l.mapM (fun m => deepEqScalar m0.val m.val) = some eqs) :
    l.mapM (fun m => deepEq ext m0.val m.val) = .ok eqs := by
  induction l generalizing eqs with
  | nil => simp at h; subst h; rfl
  | cons a l ih =>
    rw [List.mapM_cons] at h ⊢
    cases ha : deepEqScalar m0.val a.val with
    | none => simp [ha] at h
    | some r =>
      simp only [ha, Option.pure_def, Option.bind_eq_bind, Option.bind_some] at h
      cases hl : l.mapM (fun m => deepEqScalar m0.val m.val) with
      | none => simp [hl] at h
      | some rest =>
        simp only [hl, Option.bind_some, Option.some.injEq] at h
        subst h
        simp only [ih rest hl, deepEq_scalar ext _ _ r ha]
        rfl

/-- a `botheq` group (scalar members) is violated exactly when some member differs from the first -/
theorem C17_botheq_iff (ext : Ext) (m0 m1 : Member) (ms : List Member) (eqs : List Bool)
    (h : (m1 :: ms).mapM (fun m => deepEqScalar m0.val m.val) = some eqs) :
    ∃ out, bothEqClause ext (m0 :: m1 :: ms) = .ok out ∧ (out ≠ [] ↔ eqs.any (· == false) = true) := by
  have hall : eqs.all id = !eqs.any (· == false) := by simp [List.all_eq_not_any_not]
  simp only [bothEqClause, mapM_deepEq ext m0 (m1 :: ms) eqs h, bind, Except.bind, hall]
  cases eqs.any (· == false)
  · exact ⟨_, rfl, by simp⟩
  · exact ⟨_, rfl, by simp [errEndFlag]⟩

/-- groups are formed per (object scope, rule text): two members of one group always belong to the
same object and carry the same rule text — objects never share a group -/
theorem C17_group_same_object (ms : List Member) (g : List Member) (hg : g ∈ groupMembers ms) (a c : Member)
    (ha : a ∈ g) (hc : c ∈ g) : a.scope = c.scope ∧ a.validName = c.validName := by
  unfold groupMembers at hg
  simp only [List.mem_map] at hg
  obtain ⟨k, _, rfl⟩ := hg
  simp only [List.mem_filter, beq_iff_eq] at ha hc
  have h1 := ha.2; have h2 := hc.2
  rw [Prod.ext_iff] at h1 h2
  exact ⟨h1.1.trans h2.1.symm, h1.2.trans h2.2.symm⟩

/-- … and a group holds *all* members of its object carrying that rule text -/
theorem C17_group_complete (ms : List Member) (g : List Member) (hg : g ∈ groupMembers ms) (a c : Member)
    (ha : a ∈ g) (hc : c ∈ ms) (hs : c.scope = a.scope) (hv : c.validName = a.validName) : c ∈ g := by
  unfold groupMembers at hg
  simp only [List.mem_map] at hg
  obtain ⟨k, _, rfl⟩ := hg
  simp only [List.mem_filter, beq_iff_eq] at ha ⊢
  refine ⟨hc, ?_⟩
  rw [← ha.2, Prod.ext_iff]; exact ⟨hs, hv⟩

theorem dedupKeys_subset (ks : List (Bytes × Bytes)) : ∀ k ∈ dedupKeys ks, k ∈ ks := by
  induction ks with
  | nil => intro k h; simp [dedupKeys] at h
  | cons a r ih =>
    intro k h
    simp only [dedupKeys, List.mem_cons, List.mem_filter] at h
    rcases h with rfl | ⟨h, _⟩
    · simp
    · exact List.mem_cons_of_mem _ (ih k h)

theorem dedupKeys_append (a c : List (Bytes × Bytes)) (h : ∀ k ∈ a, k ∉ c) :
    dedupKeys (a ++ c) = dedupKeys a ++ dedupKeys c := by
  induction a with
  | nil => rfl
  | cons k r ih =>
    simp only [List.cons_append, dedupKeys]
    rw [ih (fun x hx => h x (by simp [hx])), List.filter_append]
    congr 2
    rw [List.filter_eq_self]
    intro x hx
    have hk : k ∉ c := h k (by simp)
    simp only [bne_iff_ne, ne_eq]
    intro e; subst e
    exact hk (dedupKeys_subset c _ hx)

theorem filter_gkey_nil (ms : List Member) (k : Bytes × Bytes) (h : k ∉ ms.map Member.gkey) :
    ms.filter (fun m => m.gkey == k) = [] := by
  simp only [List.filter_eq_nil_iff, beq_iff_eq]
  intro m hm e; exact h (e ▸ List.mem_map_of_mem hm)

/-- **objects are judged independently**: if no member of one part shares (object, rule text) with a
member of the other — e.g. the members of two slice elements, of a parent and a nested object, of two
map entries — the groups of the whole are the groups of the first part followed by the groups of the
second, each exactly as if the other part did not exist -/
theorem C17_independent_objects (ms₁ ms₂ : List Member)
    (h : ∀ a ∈ ms₁, ∀ c ∈ ms₂, a.gkey ≠ c.gkey) :
    groupMembers (ms₁ ++ ms₂) = groupMembers ms₁ ++ groupMembers ms₂ := by
  unfold groupMembers
  have hdis : ∀ k ∈ ms₁.map Member.gkey, k ∉ ms₂.map Member.gkey := by
    intro k hk hk2
    simp only [List.mem_map] at hk hk2
    obtain ⟨a, ha, rfl⟩ := hk
    obtain ⟨c, hc, hce⟩ := hk2
    exact h a ha c hc hce.symm
  rw [List.map_append, dedupKeys_append _ _ hdis, List.map_append]
  congr 1 <;> apply List.map_congr_left <;> intro k hk <;> rw [List.filter_append]
  · rw [filter_gkey_nil ms₂ k (hdis k (dedupKeys_subset _ k hk)), List.append_nil]
  · rw [filter_gkey_nil ms₁ k (fun h1 => hdis k h1 (dedupKeys_subset _ k hk)), List.nil_append]

/-- … and so are their clauses -/
theorem C17_independent_clauses (ext : Ext) (ms₁ ms₂ : List Member) (h : ∀ a ∈ ms₁, ∀ c ∈ ms₂, a.gkey ≠ c.gkey) :
    groupClauses ext (ms₁ ++ ms₂) = (do let a ← groupClauses ext ms₁; let c ← groupClauses ext ms₂; pure (a ++ c)) := by
  unfold groupClauses
  rw [C17_independent_objects ms₁ ms₂ h, List.mapM_append]

/-- the scope under which a struct field registers is the path of the object that holds it -/
theorem C17_scope_is_object (ext : Ext) (fns : FnTables) (scope sn fname : Bytes) (v : GoVal)
    (descend : Bool → Bool → Bytes → WSt → M WSt) (r : Bytes) (rs : List Bytes) (d : Bool) (st : WSt) (hr : r ≠ [])
    (hk : resolveFn fns (parseValidNameKV r).1 = .structural)
    (h1 : (parseValidNameKV r).1 ≠ requiredB) (h2 : (parseValidNameKV r).1 ≠ existB) :
    fieldRules ext fns scope sn fname v descend (r :: rs) d st
      = fieldRules ext fns scope sn fname v descend rs d
          { st with members := st.members ++ [{ scope := scope, validName := r, objName := sn, fieldName := fname, val := v }] } :=
  fieldRules_group ext fns scope sn fname v descend r rs d st hr hk h1 h2

/-! non-vacuity: a slice of two objects, `{A:"", B:""}` violates `either=1`, `{A:"x", B:""}` does not:
exactly one clause, naming the members of element 0 only -/
example :
    let obj (a : Bytes) : GoVal := .struct (b! "main.T") (b! "T") false
      (.cons (b! "A") true false [(b! "valid", b! "either=1")] (.str a)
        (.cons (b! "B") true false [(b! "valid", b! "either=1")] (.str []) .nil))
    (match structValid { ext := fun _ => none } (.val (b! "[]main.T") (.slice (b! "[]main.T") (b! "main.T") false (.cons (obj []) (.cons (obj (b! "x")) .nil)))) with
     | .ok o => o.err o.groups | _ => none)
      = some (b! "\"main.T[0].A\", \"main.T[0].B\" explain: they shouldn't all be empty") := by decide +kernel

end PGV.Props.C17
