import PGV.Model.LRU
import PGV.Spec.LRU

/-!
# The two-structure LRU refines the recency list (C09)

The index `nodeMap` and the recency list `list` are tied by `WInv`; under it `abs` is the recency
list with every element id replaced by its key (`absL_eq_map`).  The three primitives the
operations are made of -- move to front, remove from both structures, insert a fresh element --
each come with what they do to `WInv` and to the abstraction; every operation is then one case
split on the index lookup.
-/

namespace PGV.Props.C09
open PGV.Model.LRU

/-- internal consistency of the two-structure representation -/
structure Inv (s : St) : Prop where
  keys_nodup : (s.nodeMap.map (·.1)).Nodup
  ids_nodup  : (s.nodeMap.map (·.2)).Nodup
  list_nodup : (s.list.map (·.1)).Nodup
  same_ids   : ∀ id, id ∈ s.nodeMap.map (·.2) ↔ id ∈ s.list.map (·.1)
  bound      : s.list.length ≤ s.cap
  fresh      : ∀ id ∈ s.list.map (·.1), id < s.next

/-- abstraction: the recency list with each element's key looked up in the index -/
def abs (s : St) : PGV.Spec.LRU.Sp :=
  s.list.filterMap fun (id, v) => (keyOf s.nodeMap id).map fun k => (k, v)

end PGV.Props.C09

namespace PGV.Proofs.LRU
open PGV.Model.LRU PGV.Props.C09

/-! ## association lists with distinct first components -/

section Assoc
variable {β : Type} {l : List (Nat × β)} {a : Nat}

theorem find?_fst_some {x : Nat × β} (h : l.find? (·.1 == a) = some x) : x.1 = a ∧ x ∈ l :=
  ⟨by simpa using List.find?_some h, List.mem_of_find?_eq_some h⟩

theorem find?_fst (hn : (l.map (·.1)).Nodup) {b : β} (h : (a, b) ∈ l) :
    l.find? (·.1 == a) = some (a, b) := by
  induction l with
  | nil => cases h
  | cons x t ih =>
    rw [List.map_cons, List.nodup_cons] at hn
    rcases List.mem_cons.1 h with rfl | h
    · simp
    · have : x.1 ≠ a := fun e => hn.1 (e ▸ List.mem_map_of_mem (f := (·.1)) h)
      simp [this, ih hn.2 h]

theorem any_fst : l.any (·.1 == a) = true ↔ a ∈ l.map (·.1) := by
  rw [List.any_eq_true, List.mem_map]
  exact exists_congr fun _ => and_congr_right fun _ => beq_iff_eq

theorem find?_fst_none : l.find? (·.1 == a) = none ↔ a ∉ l.map (·.1) := by
  rw [← any_fst, List.any_eq_true, ← List.find?_isSome, Option.not_isSome_iff_eq_none]

theorem filter_fst_ne_self (h : a ∉ l.map (·.1)) : l.filter (·.1 != a) = l :=
  List.filter_eq_self.2 fun _ hy => bne_iff_ne.2 fun e => h (e ▸ List.mem_map_of_mem (f := (·.1)) hy)

theorem mem_map_fst_filter {a' : Nat} :
    a' ∈ (l.filter (·.1 != a)).map (·.1) ↔ a' ∈ l.map (·.1) ∧ a' ≠ a := by
  simp only [List.mem_map, List.mem_filter, bne_iff_ne]
  exact ⟨fun ⟨x, ⟨hx, hne⟩, e⟩ => ⟨⟨x, hx, e⟩, e ▸ hne⟩,
    fun ⟨⟨x, hx, e⟩, hne⟩ => ⟨x, ⟨hx, e ▸ hne⟩, e⟩⟩

/-- removing the (unique) entry with first component `a` shortens the list by exactly one -/
theorem length_filter_fst_ne (hn : (l.map (·.1)).Nodup) (ha : a ∈ l.map (·.1)) :
    (l.filter (·.1 != a)).length + 1 = l.length := by
  induction l with
  | nil => cases ha
  | cons x t ih =>
    rw [List.map_cons, List.nodup_cons] at hn
    by_cases h : x.1 = a
    · rw [List.filter_cons_of_neg (by simp [h]), filter_fst_ne_self (h ▸ hn.1), List.length_cons]
    · rw [List.filter_cons_of_pos (by simp [h]), List.length_cons, List.length_cons,
        ih hn.2 ((List.mem_cons.1 ha).resolve_left (Ne.symm h))]

/-- if the last entry is the one with first component `a`, removing it is `dropLast` -/
theorem filter_fst_ne_concat {b : β} (hn : ((l ++ [(a, b)]).map (·.1)).Nodup) :
    (l ++ [(a, b)]).filter (·.1 != a) = l := by
  rw [List.map_append, List.nodup_append] at hn
  rw [List.filter_append, filter_fst_ne_self fun h => hn.2.2 a h a (by simp) rfl]
  simp

end Assoc

theorem filterMap_eq_map_of {α γ : Type} {f : α → Option γ} {g : α → γ} {l : List α}
    (h : ∀ x ∈ l, f x = some (g x)) : l.filterMap f = l.map g := by
  induction l with
  | nil => rfl
  | cons x t ih =>
    rw [List.filterMap_cons, h x List.mem_cons_self, List.map_cons,
      ih fun y hy => h y (List.mem_cons_of_mem _ hy)]

/-! ## point lookups -/

section Lookup
variable {m : List (Key × ElemId)} {k : Key} {id : ElemId}

theorem lookup_none : lookup m k = none ↔ k ∉ m.map (·.1) := by
  rw [lookup, Option.map_eq_none_iff, find?_fst_none]

theorem lookup_some (hn : (m.map (·.1)).Nodup) : lookup m k = some id ↔ (k, id) ∈ m := by
  rw [lookup, Option.map_eq_some_iff]
  constructor
  · rintro ⟨_, hf, rfl⟩
    obtain ⟨rfl, h⟩ := find?_fst_some hf
    exact h
  · exact fun h => ⟨_, find?_fst hn h, rfl⟩

/-- the reverse lookup is a lookup in the reversed index -/
theorem keyOf_eq_lookup : keyOf m id = lookup (m.map Prod.swap) id := by
  simp [keyOf, lookup, List.find?_map, Function.comp_def]

theorem keyOf_none (nm : List (Key × ElemId)) (id : ElemId) :
    keyOf nm id = none ↔ id ∉ nm.map (·.2) := by
  rw [keyOf_eq_lookup, lookup_none, List.map_map]; rfl

theorem keyOf_some (hn : (m.map (·.2)).Nodup) : keyOf m id = some k ↔ (k, id) ∈ m := by
  rw [keyOf_eq_lookup, lookup_some (by rwa [List.map_map]), List.mem_map]
  constructor
  · rintro ⟨⟨_, _⟩, hx, ⟨⟩⟩; exact hx
  · exact fun h => ⟨_, h, rfl⟩

theorem valOf_some {l : List (ElemId × Val)} (hn : (l.map (·.1)).Nodup) {v : Val} :
    valOf l id = some v ↔ (id, v) ∈ l :=
  lookup_some (m := l) hn

end Lookup

/-! ## the index and the recency list together -/

/-- What ties the index to the recency list; `n` bounds the ids in use.  `Inv` is this plus the
capacity bound, which `store` breaks between insertion and eviction. -/
structure WInv (nm : List (Key × ElemId)) (l : List (ElemId × Val)) (n : ElemId) : Prop where
  keys_nodup : (nm.map (·.1)).Nodup
  ids_nodup  : (nm.map (·.2)).Nodup
  list_nodup : (l.map (·.1)).Nodup
  same_ids   : ∀ id, id ∈ nm.map (·.2) ↔ id ∈ l.map (·.1)
  fresh      : ∀ id ∈ l.map (·.1), id < n

theorem inv_iff {s : St} : Inv s ↔ WInv s.nodeMap s.list s.next ∧ s.list.length ≤ s.cap :=
  ⟨fun h => ⟨⟨h.1, h.2, h.3, h.4, h.6⟩, h.5⟩, fun ⟨w, b⟩ => ⟨w.1, w.2, w.3, w.4, b, w.5⟩⟩

/-- the key the index gives to element `id` (every element of the recency list has one) -/
def keyAt (nm : List (Key × ElemId)) (id : ElemId) : Key := (keyOf nm id).getD 0

/-- `abs` under `WInv` (`WInv.abs_eq`): every id of the recency list replaced by its key -/
def absL (nm : List (Key × ElemId)) (l : List (ElemId × Val)) : List (Key × Val) :=
  l.map fun x => (keyAt nm x.1, x.2)

theorem keyAt_eq {nm : List (Key × ElemId)} (hn : (nm.map (·.2)).Nodup) {k : Key} {id : ElemId}
    (h : (k, id) ∈ nm) : keyAt nm id = k := by
  rw [keyAt, (keyOf_some hn).2 h]; rfl

theorem absL_keys (nm : List (Key × ElemId)) (l : List (ElemId × Val)) :
    (absL nm l).map (·.1) = (l.map (·.1)).map (keyAt nm) := by
  rw [absL, List.map_map, List.map_map]; rfl

theorem absL_congr {nm nm' : List (Key × ElemId)} (hn : (nm'.map (·.2)).Nodup)
    {l : List (ElemId × Val)} (h : ∀ x ∈ l, (keyAt nm x.1, x.1) ∈ nm') : absL nm' l = absL nm l :=
  List.map_congr_left fun x hx => by
    show (keyAt nm' x.1, x.2) = (keyAt nm x.1, x.2)
    rw [keyAt_eq hn (h x hx)]

namespace WInv
variable {nm : List (Key × ElemId)} {l : List (ElemId × Val)} {n : ElemId} {k k' : Key}
  {id id' : ElemId} {v : Val}

theorem mem_keyAt (W : WInv nm l n) (h : id ∈ l.map (·.1)) : (keyAt nm id, id) ∈ nm := by
  obtain ⟨⟨k, _⟩, hm, rfl⟩ := List.mem_map.1 ((W.same_ids id).2 h)
  rwa [keyAt_eq W.ids_nodup hm]

theorem val_of_mem (W : WInv nm l n) (h : (k, id) ∈ nm) : ∃ v, (id, v) ∈ l := by
  obtain ⟨⟨_, v⟩, hm, rfl⟩ :=
    List.mem_map.1 ((W.same_ids id).1 (List.mem_map_of_mem (f := (·.2)) h))
  exact ⟨v, hm⟩

/-- the index is a bijection between keys and ids -/
theorem inj (W : WInv nm l n) (h : (k, id) ∈ nm) (h' : (k', id') ∈ nm) : k = k' ↔ id = id' := by
  constructor <;> rintro rfl
  · have e := (lookup_some W.keys_nodup).2 h
    exact Option.some.inj (e.symm.trans ((lookup_some W.keys_nodup).2 h'))
  · have e := (keyOf_some W.ids_nodup).2 h
    exact Option.some.inj (e.symm.trans ((keyOf_some W.ids_nodup).2 h'))

theorem keyAt_eq_iff (W : WInv nm l n) (hk : (k, id) ∈ nm) (h : id' ∈ l.map (·.1)) :
    keyAt nm id' = k ↔ id' = id :=
  W.inj (W.mem_keyAt h) hk

theorem abs_eq {s : St} (W : WInv s.nodeMap s.list n) : abs s = absL s.nodeMap s.list := by
  refine filterMap_eq_map_of ?_
  rintro ⟨id, v⟩ hx
  show (keyOf s.nodeMap id).map _ = _
  rw [(keyOf_some W.ids_nodup).2 (W.mem_keyAt (List.mem_map_of_mem (f := (·.1)) hx))]; rfl

theorem absL_keys_nodup (W : WInv nm l n) : ((absL nm l).map (·.1)).Nodup := by
  rw [absL_keys]
  refine List.pairwise_map.2 (W.list_nodup.imp_of_mem ?_)
  intro a b ha hb hne e
  exact hne ((W.keyAt_eq_iff (W.mem_keyAt hb) ha).1 e)

theorem key_mem_absL (W : WInv nm l n) : k ∈ (absL nm l).map (·.1) ↔ k ∈ nm.map (·.1) := by
  rw [absL_keys, List.mem_map, List.mem_map]
  constructor
  · rintro ⟨id, h, rfl⟩; exact ⟨_, W.mem_keyAt h, rfl⟩
  · rintro ⟨⟨k, id⟩, h, rfl⟩
    exact ⟨id, (W.same_ids id).1 (List.mem_map_of_mem (f := (·.2)) h), keyAt_eq W.ids_nodup h⟩

theorem find?_absL_none (W : WInv nm l n) (hl : lookup nm k = none) :
    (absL nm l).find? (·.1 == k) = none := by
  rwa [find?_fst_none, W.key_mem_absL, ← lookup_none]

/-- a hit in the abstract state finds exactly the value stored in the recency list -/
theorem find?_absL (W : WInv nm l n) (hk : (k, id) ∈ nm) (hv : (id, v) ∈ l) :
    (absL nm l).find? (·.1 == k) = some (k, v) := by
  refine find?_fst W.absL_keys_nodup (List.mem_map.2 ⟨_, hv, ?_⟩)
  rw [keyAt_eq W.ids_nodup hk]

/-! ### the three primitives: what each does to `WInv` and to the abstraction -/

theorem move (W : WInv nm l n) (hid : id ∈ l.map (·.1)) (v : Val) :
    WInv nm (moveFront l id v) n := by
  have hids : ∀ id', id' ∈ (moveFront l id v).map (·.1) ↔ id' ∈ l.map (·.1) := by
    intro id'
    rw [moveFront, List.map_cons, List.mem_cons, mem_map_fst_filter]
    exact ⟨fun h => h.elim (· ▸ hid) (·.1),
      fun h => (Decidable.em (id' = id)).imp_right fun e => ⟨h, e⟩⟩
  refine ⟨W.keys_nodup, W.ids_nodup, ?_, fun id' => (W.same_ids id').trans (hids id').symm,
    fun id' h => W.fresh id' ((hids id').1 h)⟩
  rw [moveFront, List.map_cons, List.nodup_cons]
  exact ⟨fun h => (mem_map_fst_filter.1 h).2 rfl, W.list_nodup.sublist (List.filter_sublist.map _)⟩

theorem absL_filter (W : WInv nm l n) (hk : (k, id) ∈ nm) :
    absL nm (l.filter (·.1 != id)) = (absL nm l).filter (·.1 != k) := by
  rw [absL, absL, List.filter_map]
  refine congrArg _ (List.filter_congr fun x hx => ?_)
  show (x.1 != id) = (keyAt nm x.1 != k)
  rw [Bool.eq_iff_iff, bne_iff_ne, bne_iff_ne, Ne, Ne,
    W.keyAt_eq_iff hk (List.mem_map_of_mem (f := (·.1)) hx)]

theorem absL_move (W : WInv nm l n) (hk : (k, id) ∈ nm) (v : Val) :
    absL nm (moveFront l id v) = (k, v) :: (absL nm l).filter (·.1 != k) := by
  rw [← W.absL_filter hk, moveFront, absL, List.map_cons, keyAt_eq W.ids_nodup hk]; rfl

theorem remove (W : WInv nm l n) (hk : (k, id) ∈ nm) :
    WInv (nm.filter (·.1 != k)) (l.filter (·.1 != id)) n := by
  refine ⟨W.keys_nodup.sublist (List.filter_sublist.map _),
    W.ids_nodup.sublist (List.filter_sublist.map _),
    W.list_nodup.sublist (List.filter_sublist.map _), fun id' => ?_,
    fun id' h => W.fresh id' (mem_map_fst_filter.1 h).1⟩
  rw [mem_map_fst_filter, ← W.same_ids id']
  simp only [List.mem_map, List.mem_filter, bne_iff_ne]
  constructor
  · rintro ⟨⟨k', _⟩, ⟨hm, hne⟩, rfl⟩
    exact ⟨⟨_, hm, rfl⟩, fun e => hne ((W.inj hm hk).2 e)⟩
  · rintro ⟨⟨⟨k', _⟩, hm, rfl⟩, hne⟩
    exact ⟨_, ⟨hm, fun e => hne ((W.inj hm hk).1 e)⟩, rfl⟩

theorem absL_remove (W : WInv nm l n) (hk : (k, id) ∈ nm) :
    absL (nm.filter (·.1 != k)) (l.filter (·.1 != id)) = (absL nm l).filter (·.1 != k) := by
  rw [← W.absL_filter hk]
  refine absL_congr (W.remove hk).ids_nodup fun x hx => ?_
  obtain ⟨hx, hne⟩ := List.mem_filter.1 hx
  have hm := W.mem_keyAt (List.mem_map_of_mem (f := (·.1)) hx)
  exact List.mem_filter.2 ⟨hm, bne_iff_ne.2 fun e => bne_iff_ne.1 hne ((W.inj hm hk).1 e)⟩

/-- the fresh id is `n` itself -/
theorem insert (W : WInv nm l n) (hk : k ∉ nm.map (·.1)) (v : Val) :
    WInv ((k, n) :: nm) ((n, v) :: l) (n + 1) := by
  have hn : n ∉ l.map (·.1) := fun h => Nat.lt_irrefl _ (W.fresh n h)
  refine ⟨List.nodup_cons.2 ⟨hk, W.keys_nodup⟩,
    List.nodup_cons.2 ⟨fun h => hn ((W.same_ids n).1 h), W.ids_nodup⟩,
    List.nodup_cons.2 ⟨hn, W.list_nodup⟩, fun id' => ?_, fun id' h => ?_⟩
  · rw [List.map_cons, List.map_cons, List.mem_cons, List.mem_cons, W.same_ids id']
  · rcases List.mem_cons.1 h with rfl | h
    · exact Nat.lt_succ_self _
    · exact Nat.lt_succ_of_lt (W.fresh id' h)

theorem absL_insert (W : WInv nm l n) (hk : k ∉ nm.map (·.1)) (v : Val) :
    absL ((k, n) :: nm) ((n, v) :: l) = (k, v) :: absL nm l := by
  have W1 := W.insert hk v
  rw [absL, List.map_cons, keyAt_eq W1.ids_nodup List.mem_cons_self]
  exact congrArg _ (absL_congr W1.ids_nodup fun x hx =>
    List.mem_cons_of_mem _ (W.mem_keyAt (List.mem_map_of_mem (f := (·.1)) hx)))

theorem length_eq (W : WInv nm l n) : nm.length = l.length := by
  simpa using ((List.perm_ext_iff_of_nodup W.ids_nodup W.list_nodup).2 W.same_ids).length_eq

/-- removing the back element of the recency list is `dropLast` on the abstraction -/
theorem evict (W : WInv nm l n) (hl : l.getLast? = some (id, v)) :
    ∃ k, (k, id) ∈ nm ∧ (id, v) ∈ l ∧ (l.filter (·.1 != id)).length + 1 = l.length ∧
      (absL nm l).getLast? = some (k, v) ∧ (absL nm l).filter (·.1 != k) = (absL nm l).dropLast := by
  obtain ⟨l0, rfl⟩ := List.getLast?_eq_some_iff.1 hl
  have hn := W.absL_keys_nodup
  have hA : absL nm (l0 ++ [(id, v)]) = absL nm l0 ++ [(keyAt nm id, v)] := List.map_append
  rw [hA] at hn ⊢
  have hm : (id, v) ∈ l0 ++ [(id, v)] := List.mem_append_right _ List.mem_cons_self
  exact ⟨_, W.mem_keyAt (List.mem_map_of_mem (f := (·.1)) hm), hm,
    by rw [filter_fst_ne_concat W.list_nodup, List.length_append]; rfl,
    List.getLast?_concat, by rw [List.dropLast_concat]; exact filter_fst_ne_concat hn⟩

end WInv

/-! ## one-step simulation -/

section Step
variable {s : St} {k : Key} {id : ElemId} {v : Val}

/-- on a well-formed state `deleteNode` finds the key and the value, and removes both entries -/
theorem deleteNode_eq {cap nx dc n : Nat} {nm : List (Key × ElemId)} {l : List (ElemId × Val)}
    (W : WInv nm l n) (hk : (k, id) ∈ nm) (hv : (id, v) ∈ l) :
    deleteNode ⟨cap, nm, l, nx, dc⟩ id =
      (⟨cap, nm.filter (·.1 != k), l.filter (·.1 != id), nx, if dc > 2 * cap then 0 else dc + 1⟩,
       [(k, v)]) := by
  rw [deleteNode, (keyOf_some W.ids_nodup).2 hk, (valOf_some W.list_nodup).2 hv]

/-- one step preserves the invariant and the capacity, produces the spec's output, and commutes
with the abstraction -/
def Sim (s : St) (op : Op) : Prop :=
  Inv (step s op).1 ∧ (step s op).1.cap = s.cap ∧
  (step s op).2 = (PGV.Spec.LRU.step s.cap (absL s.nodeMap s.list) op).2 ∧
  absL (step s op).1.nodeMap (step s op).1.list =
    (PGV.Spec.LRU.step s.cap (absL s.nodeMap s.list) op).1

/-- `MoveToFront` with a new value, on the state -/
theorem touch (I : Inv s) (hk : (k, id) ∈ s.nodeMap) (v : Val) :
    Inv { s with list := moveFront s.list id v } ∧
    absL s.nodeMap (moveFront s.list id v) = (k, v) :: (absL s.nodeMap s.list).filter (·.1 != k) := by
  obtain ⟨W, hb⟩ := inv_iff.1 I
  have W' := W.move ((W.same_ids id).1 (List.mem_map_of_mem (f := (·.2)) hk)) v
  exact ⟨inv_iff.2 ⟨W', Nat.le_trans (Nat.le_of_eq (W'.length_eq.symm.trans W.length_eq)) hb⟩,
    W.absL_move hk v⟩

theorem load_sim (I : Inv s) (k : Key) : Sim s (.load k) := by
  obtain ⟨W, _⟩ := inv_iff.1 I
  cases hl : lookup s.nodeMap k with
  | none =>
    simp only [Sim, step, load, Spec.LRU.step, hl, W.find?_absL_none hl, and_true]
    exact I
  | some id =>
    have hk := (lookup_some W.keys_nodup).1 hl
    obtain ⟨v, hv⟩ := W.val_of_mem hk
    simp only [Sim, step, load, Spec.LRU.step, hl, (valOf_some W.list_nodup).2 hv,
      W.find?_absL hk hv, true_and]
    exact touch I hk v

theorem delete_sim (I : Inv s) (k : Key) : Sim s (.delete k) := by
  obtain ⟨W, hb⟩ := inv_iff.1 I
  cases hl : lookup s.nodeMap k with
  | none =>
    simp only [Sim, step, delete, Spec.LRU.step, hl, W.find?_absL_none hl, and_true]
    exact I
  | some id =>
    have hk := (lookup_some W.keys_nodup).1 hl
    obtain ⟨v, hv⟩ := W.val_of_mem hk
    simp only [Sim, step, delete, Spec.LRU.step, hl, deleteNode_eq W hk hv, W.find?_absL hk hv,
      true_and]
    exact ⟨inv_iff.2 ⟨W.remove hk, Nat.le_trans (List.length_filter_le _ _) hb⟩, W.absL_remove hk⟩

theorem len_sim (I : Inv s) : Sim s .len := by
  have hlen : (s.list.length != s.nodeMap.length) = false := by
    rw [(inv_iff.1 I).1.length_eq]; exact bne_self_eq_false _
  simp only [Sim, step, len, Spec.LRU.step, hlen, Bool.false_eq_true, if_false, absL,
    List.length_map, and_true]
  exact I

theorem dump_sim (I : Inv s) : Sim s .dump := by
  simp only [Sim, step, dump, Spec.LRU.step, absL, List.map_map, Function.comp_def, and_true]
  exact I

theorem store_sim (I : Inv s) (k : Key) (v : Val) : Sim s (.store k v) := by
  obtain ⟨W, hb⟩ := inv_iff.1 I
  cases hl : lookup s.nodeMap k with
  | some id =>
    have hk := (lookup_some W.keys_nodup).1 hl
    have hany := any_fst.2 (W.key_mem_absL.2 (List.mem_map_of_mem (f := (·.1)) hk))
    simp only [Sim, step, store, Spec.LRU.step, hl, hany, if_true, true_and]
    exact touch I hk v
  | none =>
    have hkn := lookup_none.1 hl
    have hany : ¬ (absL s.nodeMap s.list).any (·.1 == k) = true :=
      fun h => hkn (W.key_mem_absL.1 (any_fst.1 h))
    have W1 := W.insert hkn v
    have hlen : (absL s.nodeMap s.list).length = s.list.length := List.length_map _
    simp only [Sim, step, store, Spec.LRU.step, hl, hany, Bool.false_eq_true, if_false,
      List.length_cons, hlen]
    by_cases hov : s.list.length + 1 > s.cap
    · obtain ⟨⟨bid, bv⟩, hlast⟩ : ∃ x, ((s.next, v) :: s.list).getLast? = some x :=
        ⟨_, List.getLast?_eq_some_getLast (List.cons_ne_nil _ _)⟩
      obtain ⟨kb, hkb, hbm, hlen', hget, hdrop⟩ := W1.evict hlast
      simp only [if_pos hov, hlast, deleteNode_eq W1 hkb hbm, ← W.absL_insert hkn v, hget, ← hdrop,
        true_and]
      exact ⟨inv_iff.2 ⟨W1.remove hkb, Nat.le_trans (Nat.le_of_eq (Nat.succ.inj hlen')) hb⟩, rfl,
        W1.absL_remove hkb⟩
    · simp only [if_neg hov, true_and]
      exact ⟨inv_iff.2 ⟨W1, Nat.le_of_not_gt hov⟩, W.absL_insert hkn v⟩

theorem step_sim (I : Inv s) : ∀ op, Sim s op
  | .store k v => store_sim I k v
  | .load k => load_sim I k
  | .delete k => delete_sim I k
  | .len => len_sim I
  | .dump => dump_sim I

end Step

/-! ## whole runs -/

theorem run_sim (ops : List Op) : ∀ (s : St), Inv s →
    Inv (run s ops).1 ∧ (run s ops).1.cap = s.cap ∧
    (run s ops).2 = (PGV.Spec.LRU.run s.cap (absL s.nodeMap s.list) ops).2 ∧
    absL (run s ops).1.nodeMap (run s ops).1.list =
      (PGV.Spec.LRU.run s.cap (absL s.nodeMap s.list) ops).1 := by
  induction ops with
  | nil => exact fun s I => ⟨I, rfl, rfl, rfl⟩
  | cons o os ih =>
    intro s I
    obtain ⟨I1, hc, ho, ha⟩ := step_sim I o
    obtain ⟨I2, hc2, ho2, ha2⟩ := ih (step s o).1 I1
    rw [hc, ha] at ho2 ha2
    exact ⟨I2, hc2.trans hc, by rw [run, Spec.LRU.run, ho, ho2], ha2⟩

/-- the simulation theorem: from `new cap` every run keeps the invariant, produces the spec's
outputs and ends in a state whose abstraction is the spec's state -/
theorem run_new_sim (cap : Nat) (ops : List Op) :
    Inv (run (new cap) ops).1 ∧ (run (new cap) ops).1.cap = cap ∧
    (run (new cap) ops).2 = (PGV.Spec.LRU.run cap [] ops).2 ∧
    abs (run (new cap) ops).1 = (PGV.Spec.LRU.run cap [] ops).1 := by
  obtain ⟨I, hc, ho, ha⟩ := run_sim ops (new cap)
    ⟨List.nodup_nil, List.nodup_nil, List.nodup_nil, fun _ => Iff.rfl, Nat.zero_le _, nofun⟩
  exact ⟨I, hc, ho, (inv_iff.1 I).1.abs_eq.trans ha⟩

/-! ## facts about the spec alone -/

section Spec
open PGV.Spec.LRU (Sp)
variable (cap : Nat) (s : Sp) (k : Key) (v : Val)

theorem spec_run_append (a b : List Op) : ∀ (s : Sp),
    PGV.Spec.LRU.run cap s (a ++ b) =
      ((PGV.Spec.LRU.run cap (PGV.Spec.LRU.run cap s a).1 b).1,
       (PGV.Spec.LRU.run cap s a).2 ++ (PGV.Spec.LRU.run cap (PGV.Spec.LRU.run cap s a).1 b).2) := by
  induction a with
  | nil => exact fun s => rfl
  | cons o os ih => exact fun s => by rw [List.cons_append, Spec.LRU.run, ih]; rfl

/-- after `store k v` (capacity at least one) the entry `(k, v)` is at the front -/
theorem spec_store_head (hc : 0 < cap) :
    ∃ t, (PGV.Spec.LRU.step cap s (.store k v)).1 = (k, v) :: t := by
  simp only [Spec.LRU.step]
  split
  · exact ⟨_, rfl⟩
  · split
    · cases s with
      | nil => rename_i h; exact absurd h (Nat.not_lt.2 hc)
      | cons x t => exact ⟨_, rfl⟩
    · exact ⟨_, rfl⟩

theorem spec_load_head (t : Sp) : (PGV.Spec.LRU.step cap ((k, v) :: t) (.load k)).2 = .hit v := by
  simp only [Spec.LRU.step,
    List.find?_cons_of_pos (l := t) (p := (·.1 == k)) (a := (k, v)) (beq_self_eq_true k)]

/-- storing a new key: push at the front, and on overflow drop exactly the last entry -/
theorem spec_store_new (hk : k ∉ s.map (·.1)) :
    PGV.Spec.LRU.step cap s (.store k v) =
      if s.length < cap then ((k, v) :: s, .cbs [])
      else (((k, v) :: s).dropLast, .cbs [((k, v) :: s).getLast (by simp)]) := by
  simp only [Spec.LRU.step, mt any_fst.1 hk, Bool.false_eq_true, if_false, List.length_cons]
  by_cases h : s.length < cap
  · rw [if_pos h, if_neg (Nat.not_lt.2 h)]
  · rw [if_neg h, if_pos (Nat.lt_succ_of_le (Nat.not_lt.1 h)), List.getLast?_eq_some_getLast (by simp)]
    rfl

end Spec
end PGV.Proofs.LRU
