import PGV.Proofs.LangEq

/-! The model's transcription of the e-mail pattern (`wordsSep`, a fuel-driven scanner) recognises the
same language as the independent reading in `Spec.Lang` (`splitAny`: cut at every separator, then
every piece is a word). -/

namespace PGV.Proofs.EmailEq
open PGV PGV.Model PGV.Model.Lang PGV.Spec.Lang PGV.Proofs.LangEq

theorem isWord_eq (c : UInt8) : isWord c = wordc c := by
  simp [isWord, wordc, isDigit, digit, letter, Bool.or_assoc]

theorem splitAny_cons (isSep : UInt8 → Bool) (c : UInt8) (t : Bytes) :
    splitAny isSep (c :: t) =
      if isSep c then ([] :: (splitAny isSep t).1, c :: (splitAny isSep t).2)
      else match (splitAny isSep t).1 with
        | [] => ([[c]], (splitAny isSep t).2)
        | w :: r => ((c :: w) :: r, (splitAny isSep t).2) := by
  rw [splitAny]
  rcases splitAny isSep t with ⟨ws, ss⟩
  rfl

theorem splitAny_ne_nil (isSep : UInt8 → Bool) (x : Bytes) : (splitAny isSep x).1 ≠ [] := by
  cases x with
  | nil => simp [splitAny]
  | cons c t =>
    rw [splitAny_cons]
    split
    · simp
    · split <;> simp

/-- a run of non-separators in front joins the first piece -/
theorem splitAny_append (isSep : UInt8 → Bool) (w d : Bytes) (hw : ∀ c ∈ w, isSep c = false) :
    ∃ h t, (splitAny isSep d).1 = h :: t ∧
      splitAny isSep (w ++ d) = ((w ++ h) :: t, (splitAny isSep d).2) := by
  induction w with
  | nil =>
    cases hs : (splitAny isSep d).1 with
    | nil => exact absurd hs (splitAny_ne_nil isSep d)
    | cons h t => exact ⟨h, t, rfl, by simp only [List.nil_append]; rw [← hs]⟩
  | cons a r ih =>
    obtain ⟨h, t, e1, e2⟩ := ih (fun c hc => hw c (List.mem_cons_of_mem _ hc))
    refine ⟨h, t, e1, ?_⟩
    have ha : isSep a = false := hw a (by simp)
    rw [List.cons_append, splitAny_cons, ha, e2]
    rfl

theorem word_cons_false (c : UInt8) (r : Bytes) (h : wordc c = false) : word (c :: r) = false := by
  simp [word, h]

theorem word_append_bad (w : Bytes) (c : UInt8) (r : Bytes) (h : wordc c = false) : word (w ++ c :: r) = false := by
  simp [word, h]

/-- a text that does not start with a word character has a first piece that is not a word -/
theorem not_word_start (isSep : UInt8 → Bool) (x : Bytes) (h : x.takeWhile isWord = []) :
    (splitAny isSep x).1.all word = false := by
  cases x with
  | nil => rfl
  | cons d t =>
    have hd : wordc d = false := by
      rw [← isWord_eq]
      simp only [List.takeWhile_cons] at h
      split at h
      · cases h
      · rename_i hh; simpa using hh
    rw [splitAny_cons]
    split
    · simp [word]
    · split
      · simp [word, hd]
      · simp [word, hd]

/-- a byte that is not a separator survives in some piece -/
theorem piece_of_mem (isSep : UInt8 → Bool) (x : Bytes) (c : UInt8) (hc : c ∈ x) (h1 : isSep c = false) :
    ∃ w ∈ (splitAny isSep x).1, c ∈ w := by
  induction x with
  | nil => cases hc
  | cons a t ih =>
    rw [splitAny_cons]
    rcases List.mem_cons.mp hc with e | hm
    · subst e
      simp only [h1, Bool.false_eq_true, if_false]
      split
      · exact ⟨[c], by simp, by simp⟩
      · rename_i w r _; exact ⟨c :: w, by simp, by simp⟩
    · obtain ⟨w, hw, hcw⟩ := ih hm
      split
      · exact ⟨w, List.mem_cons_of_mem _ hw, hcw⟩
      · split
        · rename_i hs; exact absurd hs (splitAny_ne_nil isSep t)
        · rename_i w0 r hs
          rw [hs] at hw
          rcases List.mem_cons.mp hw with e | e
          · subst e; exact ⟨a :: w, by simp, List.mem_cons_of_mem _ hcw⟩
          · exact ⟨w, List.mem_cons_of_mem _ e, hcw⟩

/-- a byte that is neither a separator nor a word character spoils some piece -/
theorem bad_byte (isSep : UInt8 → Bool) (x : Bytes) (c : UInt8) (hc : c ∈ x) (h1 : isSep c = false) (h2 : wordc c = false) :
    (splitAny isSep x).1.all word = false := by
  obtain ⟨w, hw, hcw⟩ := piece_of_mem isSep x c hc h1
  cases hall : (splitAny isSep x).1.all word with
  | false => rfl
  | true =>
    have hword := List.all_eq_true.mp hall w hw
    simp only [word, Bool.and_eq_true] at hword
    have := List.all_eq_true.mp hword.2 c hcw
    rw [h2] at this; cases this

/-- what the scanner's loop computes, stated on the pieces -/
def tailSpec (isSep : UInt8 → Bool) (x : Bytes) (acc : List UInt8) : Option (List UInt8) :=
  match x with
  | [] => some acc.reverse
  | c :: r => if isSep c && (splitAny isSep r).1.all word then some (acc.reverse ++ c :: (splitAny isSep r).2) else none

theorem word_of_all (w : Bytes) (hne : w ≠ []) (hw : w.all isWord = true) : word w = true := by
  have : w.all wordc = true := by
    rw [List.all_eq_true] at hw ⊢
    intro c hc; rw [← isWord_eq]; exact hw c hc
  cases w with
  | nil => exact absurd rfl hne
  | cons a r => simp only [word, List.isEmpty_cons, Bool.not_false, Bool.true_and]; exact this

/-- a word followed by the rest of the text: the rest decides -/
theorem after_word (isSep : UInt8 → Bool) (hsep : ∀ c, isSep c = true → isWord c = false)
    (w d : Bytes) (acc : List UInt8) (hne : w ≠ []) (hw : w.all isWord = true)
    (hd : ∀ x t, d = x :: t → isWord x = false) :
    tailSpec isSep d acc =
      if (splitAny isSep (w ++ d)).1.all word then some (acc.reverse ++ (splitAny isSep (w ++ d)).2) else none := by
  have hwsep : ∀ c ∈ w, isSep c = false := by
    intro c hc
    have := List.all_eq_true.mp hw c hc
    cases h : isSep c with
    | false => rfl
    | true => rw [hsep c h] at this; cases this
  obtain ⟨h, t, e1, e2⟩ := splitAny_append isSep w d hwsep
  rw [e2]
  cases d with
  | nil =>
    simp only [splitAny] at e1 ⊢
    injection e1 with eh et
    subst eh et
    simp [tailSpec, word_of_all w hne hw]
  | cons x r =>
    have hx : isWord x = false := hd x r rfl
    rw [splitAny_cons] at e1 ⊢
    by_cases hs : isSep x = true
    · simp only [hs, if_true] at e1 ⊢
      injection e1 with eh et
      subst eh et
      simp [tailSpec, hs, word_of_all w hne hw]
    · have hs' : isSep x = false := by simpa using hs
      simp only [hs', Bool.false_eq_true, if_false] at e1 ⊢
      have hbad : word (w ++ h) = false := by
        split at e1
        · injection e1 with eh _; subst eh
          exact word_append_bad w x [] (by rw [← isWord_eq]; exact hx)
        · injection e1 with eh _; subst eh
          exact word_append_bad w x _ (by rw [← isWord_eq]; exact hx)
      simp [tailSpec, hs', hbad]

theorem go_spec (isSep : UInt8 → Bool) (hsep : ∀ c, isSep c = true → isWord c = false) :
    ∀ (fuel : Nat) (x : Bytes) (acc : List UInt8), x.length ≤ fuel →
      wordsSep.go isSep fuel x acc = tailSpec isSep x acc := by
  intro fuel
  induction fuel with
  | zero =>
    intro x acc hl
    cases x with
    | nil => rfl
    | cons _ _ => simp at hl
  | succ f ih =>
    intro x acc hl
    cases x with
    | nil => rfl
    | cons c rest =>
      rw [wordsSep.go]
      by_cases hs : isSep c = true
      · simp only [hs, if_true]
        by_cases hw : (rest.takeWhile isWord).isEmpty = true
        · simp only [hw, if_true]
          have : rest.takeWhile isWord = [] := by simpa using hw
          simp [tailSpec, hs, not_word_start isSep rest this]
        · simp only [hw, Bool.false_eq_true, if_false]
          have hne : rest.takeWhile isWord ≠ [] := by simpa using hw
          have hlen : (rest.dropWhile isWord).length ≤ f := by
            have := (List.dropWhile_sublist (l := rest) isWord).length_le
            simp only [List.length_cons] at hl
            omega
          rw [ih _ _ hlen]
          rw [after_word isSep hsep (rest.takeWhile isWord) (rest.dropWhile isWord) (c :: acc) hne
              List.all_takeWhile (fun x t h => dropWhile_head isWord rest x t h)]
          rw [List.takeWhile_append_dropWhile]
          simp [tailSpec, hs]
      · have hs' : isSep c = false := by simpa using hs
        simp [hs', tailSpec]

/-- the scanner = "cut at every separator; every piece is a word; return the separators" -/
theorem wordsSep_spec (isSep : UInt8 → Bool) (hsep : ∀ c, isSep c = true → isWord c = false) (s : Bytes) :
    wordsSep isSep s = if (splitAny isSep s).1.all word then some (splitAny isSep s).2 else none := by
  rw [wordsSep]
  by_cases hw : (s.takeWhile isWord).isEmpty = true
  · simp only [hw, if_true]
    have : s.takeWhile isWord = [] := by simpa using hw
    simp [not_word_start isSep s this]
  · simp only [hw, Bool.false_eq_true, if_false]
    have hne : s.takeWhile isWord ≠ [] := by simpa using hw
    rw [go_spec isSep hsep _ _ _ (List.dropWhile_sublist isWord).length_le]
    rw [after_word isSep hsep (s.takeWhile isWord) (s.dropWhile isWord) [] hne
        List.all_takeWhile (fun x t h => dropWhile_head isWord s x t h)]
    rw [List.takeWhile_append_dropWhile]
    simp

theorem indexByte?_none (c : UInt8) (s : Bytes) (h : Bytes.indexByte? c s = none) : c ∉ s := by
  induction s with
  | nil => simp
  | cons x t ih =>
    rw [Bytes.indexByte?] at h
    split at h
    · cases h
    · rename_i hx
      have ht : Bytes.indexByte? c t = none := by
        cases hh : Bytes.indexByte? c t with
        | none => rfl
        | some _ => rw [hh] at h; cases h
      intro hm
      rcases List.mem_cons.mp hm with e | e
      · subst e; simp at hx
      · exact ih ht e

theorem indexByte?_some (c : UInt8) (s : Bytes) (i : Nat) (h : Bytes.indexByte? c s = some i) :
    s = s.take i ++ c :: s.drop (i + 1) ∧ c ∉ s.take i := by
  induction s generalizing i with
  | nil => cases h
  | cons x t ih =>
    rw [Bytes.indexByte?] at h
    split at h
    · rename_i hx
      injection h with h; subst h
      have : x = c := eq_of_beq hx
      subst this
      simp
    · rename_i hx
      cases hh : Bytes.indexByte? c t with
      | none => rw [hh] at h; cases h
      | some j =>
        rw [hh] at h
        simp only [Option.map_some, Option.some.injEq] at h
        subst h
        obtain ⟨e1, e2⟩ := ih j hh
        constructor
        · simp only [List.take_succ_cons, List.drop_succ_cons, List.cons_append]
          rw [← e1]
        · simp only [List.take_succ_cons]
          intro hm
          rcases List.mem_cons.mp hm with e | e
          · subst e; simp at hx
          · exact e2 e

def sep1 : UInt8 → Bool := fun c => c == 45 || c == 43 || c == 46
def sep2 : UInt8 → Bool := fun c => c == 45 || c == 46

theorem sep1_not_word (c : UInt8) (h : sep1 c = true) : isWord c = false := by
  simp only [sep1, Bool.or_eq_true, beq_iff_eq] at h
  rcases h with (h | h) | h <;> subst h <;> decide

theorem sep2_not_word (c : UInt8) (h : sep2 c = true) : isWord c = false := by
  simp only [sep2, Bool.or_eq_true, beq_iff_eq] at h
  rcases h with h | h <;> subst h <;> decide

/-- **the e-mail recogniser of the model = the independent reading**, for every byte string -/
theorem email_eq (s : Bytes) : emailRe s = Spec.Lang.email s := by
  unfold emailRe Spec.Lang.email
  cases hi : Bytes.indexByte? 64 s with
  | none =>
    rw [splitByte_not_mem 64 s (indexByte?_none 64 s hi)]
  | some i =>
    obtain ⟨hs, hloc⟩ := indexByte?_some 64 s i hi
    simp only
    generalize s.take i = loc at hs hloc
    generalize s.drop (i + 1) = dom at hs
    rw [hs, splitByte_append 64 loc dom hloc]
    have e1 := wordsSep_spec (fun c => c == 45 || c == 43 || c == 46) sep1_not_word loc
    have e2 := wordsSep_spec (fun c => c == 45 || c == 46) sep2_not_word dom
    rw [e1, e2]
    by_cases hd : (64 : UInt8) ∈ dom
    · have hbad := bad_byte (fun c => c == 45 || c == 46) dom 64 hd (by decide) (by decide)
      have hlen := splitByte_mem_len 64 dom hd
      rw [hbad]
      cases hsp : Bytes.splitByte 64 dom with
      | nil => simp [hsp] at hlen
      | cons p ps =>
        cases ps with
        | nil => simp [hsp] at hlen
        | cons q qs => simp
    · rw [splitByte_not_mem 64 dom hd]
      simp only
      by_cases h1 : (splitAny (fun c => c == 45 || c == 43 || c == 46) loc).1.all word = true <;>
      by_cases h2 : (splitAny (fun c => c == 45 || c == 46) dom).1.all word = true <;>
        simp [h1, h2]

end PGV.Proofs.EmailEq
