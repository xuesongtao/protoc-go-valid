import PGV.Proofs.Accepts
import PGV.Proofs.TimeParse

/-! The four date rules decide, on strings, what `Spec.Lang.accepts` says — no residual involved:
`parseTimeStrict` is the transcription of `time.Parse` / `Format` and equals the independent reading. -/

namespace PGV.Proofs.AcceptsDate
open PGV PGV.Model PGV.Spec PGV.Spec.Lang PGV.Proofs.RuleText PGV.Proofs.Accepts PGV.Proofs.TimeParse

/-! ### the layouts `GetTimeFmt` builds, and the strict parser on them -/

theorem fmt_year : getTimeFmt 1 [] = b! "2006" := by decide

theorem fmt_y2m (sep : Bytes) : getTimeFmt 3 [sep] = b! "2006" ++ sep ++ b! "01" := by simp [getTimeFmt]

theorem fmt_date (sep : Bytes) : getTimeFmt 7 [sep] = b! "2006" ++ sep ++ b! "01" ++ sep ++ b! "02" := by
  simp [getTimeFmt]

theorem fmt_datetime (d t c : Bytes) :
    getTimeFmt 63 [d, t, c] = b! "2006" ++ d ++ b! "01" ++ d ++ b! "02" ++ t ++ b! "15" ++ c ++ b! "04" ++ c ++ b! "05" := by
  simp [getTimeFmt]

theorem strict_year (s : Bytes) : TimeParse.parseStrict (getTimeFmt 1 []) s = some (year s) := by
  rw [year_reads, ← parseStrict_layout itsYear (by simp [itsYear, ItemOK]) (by decide) ⟨nofun, trivial⟩]
  rfl

theorem strict_y2m (sep s : Bytes) (h : sepOK sep = true) :
    TimeParse.parseStrict (getTimeFmt 3 [sep]) s = some (year2month sep s) := by
  rw [year2month_reads, ← parseStrict_layout (itsY2M sep) (by simpa [itsY2M, ItemOK, sepOK_eq] using h)
    (by simp [kinds, itsY2M]) ⟨nofun, nofun, trivial⟩, fmt_y2m]
  simp [layoutOf, itsY2M, stdText]

theorem strict_date (sep s : Bytes) (h : sepOK sep = true) :
    TimeParse.parseStrict (getTimeFmt 7 [sep]) s = some (date sep s) := by
  rw [date_reads, ← parseStrict_layout (itsDate sep) (by simpa [itsDate, ItemOK, sepOK_eq] using h)
    (by simp [kinds, itsDate]) ⟨nofun, nofun, nofun, trivial⟩, fmt_date]
  simp [layoutOf, itsDate, stdText]

theorem strict_datetime (d t c s : Bytes) (hd : sepOK d = true) (ht : sepOK t = true) (hc : sepOK c = true) :
    TimeParse.parseStrict (getTimeFmt 63 [d, t, c]) s = some (datetime d t c s) := by
  rw [datetime_reads, ← parseStrict_layout (itsDatetime d t c)
    (by simpa [itsDatetime, ItemOK, sepOK_eq] using And.intro hd (And.intro ht hc))
    (by simp [kinds, itsDatetime]) ⟨nofun, nofun, nofun, nofun, nofun, fun _ => rfl, trivial⟩, fmt_datetime]
  simp [layoutOf, itsDatetime, stdText]

theorem timeOk_of (ext : Ext) (layout s : Bytes) (b : Bool) (h : TimeParse.parseStrict layout s = some b) :
    timeOk ext layout s = pure b := by
  simp only [timeOk, h]

theorem pick_getD (given : List Bytes) (i : Nat) (d : Bytes) :
    (match given[i]? with | some s => s | none => d) = given[i]?.getD d := by
  cases given[i]? <;> rfl

section
variable (ext : Ext) (text obj field s key arg cus : Bytes)

theorem year_verdict : Verdict (ruleYear ext text obj field (.str s)) (year s) :=
  strRule_verdict _ _ _ _ _ _ _ (timeOk_of ext _ s _ (strict_year s))

theorem year2month_verdict (hp : parseValidNameKV text = (key, arg, cus))
    (hok : sepOK (if arg.isEmpty then [45] else unq arg) = true) :
    Verdict (ruleYear2Month ext text obj field (.str s)) (year2month (if arg.isEmpty then [45] else unq arg) s) := by
  simp only [ruleYear2Month, hp]
  exact strRule_verdict _ _ _ _ _ _ _ (timeOk_of ext _ s _ (strict_y2m _ s hok))

theorem date_verdict (hp : parseValidNameKV text = (key, arg, cus))
    (hok : sepOK (if arg.isEmpty then [45] else unq arg) = true) :
    Verdict (ruleDate ext text obj field (.str s)) (date (if arg.isEmpty then [45] else unq arg) s) := by
  simp only [ruleDate, hp]
  exact strRule_verdict _ _ _ _ _ _ _ (timeOk_of ext _ s _ (strict_date _ s hok))

theorem datetime_verdict (hp : parseValidNameKV text = (key, arg, cus)) (given : List Bytes)
    (hg : (if arg.isEmpty then [] else Bytes.splitByte 44 (unq arg)) = given)
    (hd : sepOK (given[0]?.getD [45]) = true) (ht : sepOK (given[1]?.getD [32]) = true)
    (hc : sepOK (given[2]?.getD [58]) = true) :
    Verdict (ruleDatetime ext text obj field (.str s))
      (datetime (given[0]?.getD [45]) (given[1]?.getD [32]) (given[2]?.getD [58]) s) := by
  have hg' : (if arg.isEmpty then [] else Bytes.splitByte COMMA (Bytes.trimByte QUOTE arg)) = given := hg
  -- the rule picks each separator by a `match`, the spec by `getD`: agree case by case
  rcases h0 : given[0]? with _ | g0 <;> rcases h1 : given[1]? with _ | g1 <;> rcases h2 : given[2]? with _ | g2 <;>
    simp only [h0, h1, h2, Option.getD] at hd ht hc ⊢ <;>
    simp only [ruleDatetime, hp, hg', h0, h1, h2] <;>
    exact strRule_verdict _ _ _ _ _ _ _ (timeOk_of ext _ s _ (strict_datetime _ _ _ s hd ht hc))

/-- **The table of `accepts` against the rule table**, for any rule text on which the spec's reading
(`ruleParts`) and the implementation's parser agree about key and argument: the function registered
under the key writes a clause for a string exactly when `accepts` says "outside the language". -/
theorem accepts_sound (b : Bool)
    (hr : ruleParts text = (key, arg)) (hp : parseValidNameKV text = (key, arg, cus))
    (h : accepts text s = some b) :
    ∃ run, builtin key = some (.fn run) ∧ Verdict (run ext text obj field (.str s)) b := by
  -- walk down the table of keys of `accepts`
  have step {a : Bytes} {x rest : Option Bool} (h : (if key == a then x else rest) = some b) :
      key = a ∧ x = some b ∨ rest = some b := by
    split at h
    · exact .inl ⟨eq_of_beq ‹_›, h⟩
    · exact .inr h
  have guard {c : Prop} [Decidable c] {x : Bool} (h : (if c then some x else none) = some b) : c ∧ x = b := by
    split at h
    · exact ⟨‹_›, Option.some.inj h⟩
    · cases h
  unfold accepts at h
  rw [hr] at h
  simp only at h
  replace h := step h
  obtain ⟨rfl, h⟩ | h := h
  · cases h; exact ⟨_, rfl, phone_verdict _ obj field s⟩
  replace h := step h
  obtain ⟨rfl, h⟩ | h := h
  · cases h; exact ⟨_, rfl, email_verdict _ obj field s⟩
  replace h := step h
  obtain ⟨rfl, h⟩ | h := h
  · cases h; exact ⟨_, rfl, idcard_verdict _ obj field s⟩
  replace h := step h
  obtain ⟨rfl, h⟩ | h := h
  · cases h; exact ⟨_, rfl, int_verdict ext _ obj field s⟩
  replace h := step h
  obtain ⟨rfl, h⟩ | h := h
  · cases h; exact ⟨_, rfl, float_verdict ext _ obj field s⟩
  replace h := step h
  obtain ⟨rfl, h⟩ | h := h
  · cases h; exact ⟨_, rfl, year_verdict ext _ obj field s⟩
  replace h := step h
  obtain ⟨rfl, h⟩ | h := h
  · obtain ⟨hok, rfl⟩ := guard h
    exact ⟨_, rfl, year2month_verdict ext _ obj field s _ arg _ hp hok⟩
  replace h := step h
  obtain ⟨rfl, h⟩ | h := h
  · obtain ⟨hok, rfl⟩ := guard h
    exact ⟨_, rfl, date_verdict ext _ obj field s _ arg _ hp hok⟩
  replace h := step h
  obtain ⟨rfl, h⟩ | h := h
  · have h' : ∀ {c : Prop} [Decidable c] {y : Option Bool}, (if c then none else y) = some b → y = some b := by
      intro c _ y h; split at h
      · cases h
      · exact h
    obtain ⟨hok, rfl⟩ := guard (h' h)
    simp only [Bool.and_eq_true] at hok
    exact ⟨_, rfl, datetime_verdict ext _ obj field s _ arg _ hp _ rfl hok.1.1.1 hok.1.1.2 hok.1.2⟩
  replace h := step h
  obtain ⟨rfl, h⟩ | h := h
  · obtain ⟨os, ho, rfl⟩ := Option.map_eq_some_iff.mp h
    exact ⟨_, rfl, in_verdict ext _ obj field _ arg _ hp (by decide) os ho (.str s) s rfl⟩
  replace h := step h
  obtain ⟨rfl, h⟩ | h := h
  · obtain ⟨os, ho, rfl⟩ := Option.map_eq_some_iff.mp h
    exact ⟨_, rfl, include_verdict ext _ obj field s arg _ hp os ho⟩
  replace h := step h
  obtain ⟨rfl, h⟩ | h := h
  · cases h; exact ⟨_, rfl, ints_verdict ext _ obj field s _ arg _ hp⟩
  replace h := step h
  obtain ⟨rfl, h⟩ | h := h
  · cases h; exact ⟨_, rfl, allDistinct_eq_distinct _ ▸ unique_verdict ext _ obj field s⟩
  replace h := step h
  obtain ⟨rfl, h⟩ | h := h
  · cases h; exact ⟨_, rfl, prefix_verdict _ obj field s _ arg _ hp true⟩
  replace h := step h
  obtain ⟨rfl, h⟩ | h := h
  · cases h; exact ⟨_, rfl, prefix_verdict _ obj field s _ arg _ hp false⟩
  cases h


end
end PGV.Proofs.AcceptsDate
