import PGV.Proofs.Inject
import PGV.Proofs.Bytes

/-!
# The tag scanner reads back what `format` writes

`\w+:"[^"]+"` matches exactly the texts of items in conventional form (`matchTagAt_item`,
`matchTagAt_shape`).  So `newTagItems (format items) = items` for such items, and every item the
scanner produces is one — re-parsing a literal the injector wrote yields exactly the merged items.
-/

namespace PGV.Proofs.TagScan
open PGV PGV.Model PGV.Model.Inject PGV.Spec.Inject

/-- `key:"value"` in conventional form: a non-empty word, and a quoted non-empty value without a quote inside -/
def WfItem (i : TagItem) : Prop :=
  i.key ≠ [] ∧ (∀ c ∈ i.key, isWord c = true) ∧
  ∃ v, i.value = [34] ++ v ++ [34] ∧ v ≠ [] ∧ (34 : UInt8) ∉ v

def itemText (i : TagItem) : Bytes := i.key ++ [58] ++ i.value

theorem isWord_colon : isWord 58 = false := by decide
theorem isWord_space : isWord 32 = false := by decide

/-! ### the regular expression at one position -/

theorem matchTagAt_item (i : TagItem) (h : WfItem i) (tail : Bytes) :
    matchTagAt (itemText i ++ tail) = some (itemText i).length := by
  obtain ⟨hk, hw, v, hv, hvne, hvq⟩ := h
  have e : itemText i ++ tail = i.key ++ 58 :: (34 :: (v ++ 34 :: tail)) := by simp [itemText, hv]
  have hv' : ∀ x ∈ v, (x != 34) = true := fun x hx => by simpa using fun e : x = 34 => hvq (e ▸ hx)
  rw [matchTagAt, e, Bytes.takeWhile_append_stop i.key 58 _ hw isWord_colon, List.drop_left]
  simp only [Bytes.takeWhile_append_stop v 34 tail hv' (by simp), List.drop_left, List.isEmpty_iff, hk,
    hvne, if_false, List.head?_cons, beq_self_eq_true, if_true]
  simp [itemText, hv]; omega

theorem matchTagAt_shape (s : Bytes) (n : Nat) (h : matchTagAt s = some n) :
    ∃ i, WfItem i ∧ s.take n = itemText i := by
  unfold matchTagAt at h
  simp only [Bytes.drop_takeWhile, List.isEmpty_iff] at h
  split at h; · cases h
  next hw =>
  split at h
  next rest hd =>
    split at h; · cases h
    next hv =>
    split at h
    next hq =>
      cases h
      obtain ⟨tl, htl⟩ : ∃ tl, rest.dropWhile (· != 34) = 34 :: tl := by
        cases hr : rest.dropWhile (· != 34) with
        | nil => simp [hr] at hq
        | cons q tl => exact ⟨tl, by simpa [hr] using hq⟩
      have hww : ∀ c ∈ s.takeWhile isWord, isWord c = true := fun _ => Bytes.mem_takeWhile
      have hvq : (34 : UInt8) ∉ rest.takeWhile (· != 34) := fun hm => by simpa using Bytes.mem_takeWhile hm
      have es := (List.takeWhile_append_dropWhile (p := isWord) (l := s)).symm
      have er := (List.takeWhile_append_dropWhile (p := (· != 34)) (l := rest)).symm
      rw [hd] at es; rw [htl] at er
      generalize s.takeWhile isWord = w at *
      generalize rest.takeWhile (· != 34) = v at *
      subst er es
      refine ⟨⟨w, 34 :: (v ++ [34])⟩, ⟨hw, hww, v, rfl, hv, hvq⟩, ?_⟩
      have e : w ++ 58 :: 34 :: (v ++ 34 :: tl) = (w ++ 58 :: 34 :: (v ++ [34])) ++ tl := by simp
      rw [e, List.take_left' (by simp; omega)]
      simp [itemText]
    · cases h
  · cases h

/-! ### the scan -/

theorem findAllTags_item (fuel : Nat) (i : TagItem) (h : WfItem i) (tail : Bytes) :
    findAllTags (fuel + 1) (itemText i ++ tail) = itemText i :: findAllTags fuel tail := by
  have hm := matchTagAt_item i h tail
  cases hs : itemText i ++ tail with
  | nil => simp [itemText] at hs
  | cons c t => rw [findAllTags, ← hs, hm]; simp

theorem findAllTags_space (fuel : Nat) (s : Bytes) :
    findAllTags (fuel + 1) (32 :: s) = findAllTags fuel s := by
  have : matchTagAt (32 :: s) = none := by simp [matchTagAt, List.takeWhile, isWord_space]
  rw [findAllTags, this]

theorem format_cons_cons (i j : TagItem) (rest : TagItems) :
    format (i :: j :: rest) = itemText i ++ (32 :: format (j :: rest)) := by
  simp [format, Bytes.join, itemText, SP]

theorem format_single (i : TagItem) : format [i] = itemText i := rfl

/-- fuel: `newTagItems` gives the scan one unit per byte and one more -/
theorem findAllTags_format (items : TagItems) (h : ∀ i ∈ items, WfItem i) (fuel : Nat)
    (hf : (format items).length < fuel) :
    findAllTags fuel (format items) = items.map itemText := by
  induction items generalizing fuel with
  | nil => cases fuel <;> rfl
  | cons i rest ih =>
    obtain ⟨f, rfl⟩ : ∃ f, fuel = f + 1 := ⟨fuel - 1, by omega⟩
    cases rest with
    | nil =>
      have := findAllTags_item f i (h i (by simp)) []
      rw [List.append_nil] at this
      rw [format_single, this]
      cases f <;> rfl
    | cons j rest' =>
      have h1 : 1 ≤ (itemText i).length := by simp [itemText]; omega
      rw [format_cons_cons] at hf ⊢
      obtain ⟨f, rfl⟩ : ∃ g, f = g + 1 := ⟨f - 1, by simp at hf; omega⟩
      rw [findAllTags_item _ i (h i (by simp)), findAllTags_space,
        ih (fun x hx => h x (by simp [hx])) f (by simp at hf; omega)]
      rfl

theorem findAllTags_shape (fuel : Nat) (s : Bytes) :
    ∀ t ∈ findAllTags fuel s, ∃ i, WfItem i ∧ t = itemText i := by
  induction fuel generalizing s with
  | zero => intro t ht; simp [findAllTags] at ht
  | succ f ih =>
    intro t ht
    cases s with
    | nil => simp [findAllTags] at ht
    | cons c tl =>
      rw [findAllTags] at ht
      cases hm : matchTagAt (c :: tl) with
      | none => rw [hm] at ht; exact ih tl t ht
      | some n =>
        rw [hm] at ht
        rcases List.mem_cons.mp ht with rfl | ht
        · exact matchTagAt_shape _ n hm
        · exact ih _ t ht

/-! ### splitting a match at its colon -/

/-- the function `newTagItems` maps over the matches -/
def parseItem (t : Bytes) : TagItem :=
  match Bytes.indexByte? 58 t with
  | some n => { key := t.take n, value := t.drop (n + 1) }
  | none => { key := t, value := [] }

theorem parseItem_itemText (i : TagItem) (h : WfItem i) : parseItem (itemText i) = i := by
  have hnot : (58 : UInt8) ∉ i.key := fun hm => by simpa [isWord_colon] using h.2.1 58 hm
  rw [parseItem, itemText, List.append_assoc, List.singleton_append,
    Bytes.indexByte?_append_cons 58 i.key i.value hnot]
  simp

/-- **the scanner reads back what `format` writes** -/
theorem newTagItems_format (items : TagItems) (h : ∀ i ∈ items, WfItem i) :
    newTagItems (format items) = items := by
  show (findAllTags _ _).map parseItem = items
  rw [findAllTags_format items h _ (Nat.lt_succ_self _), List.map_map]
  conv => rhs; rw [← List.map_id items]
  exact List.map_congr_left fun i hi => parseItem_itemText i (h i hi)

/-- every item the scanner produces is in conventional form -/
theorem newTagItems_wf (tag : Bytes) : ∀ i ∈ newTagItems tag, WfItem i := by
  intro i hi
  obtain ⟨t, ht, rfl⟩ := List.mem_map.mp (show i ∈ (findAllTags _ _).map parseItem from hi)
  obtain ⟨j, hj, rfl⟩ := findAllTags_shape _ _ t ht
  rwa [parseItem_itemText j hj]

/-- merging keeps conventional form -/
theorem merge_wf (old inj : TagItems) (h1 : ∀ i ∈ old, WfItem i) (h2 : ∀ i ∈ inj, WfItem i) :
    ∀ i ∈ merge old inj, WfItem i := by
  intro i hi
  rw [PGV.Proofs.Inject.merge_def] at hi
  simp only [List.mem_append, List.mem_map, List.mem_filter] at hi
  rcases hi with ⟨o, ho, rfl⟩ | ⟨hi, _⟩
  · unfold PGV.Proofs.Inject.upd
    cases hf : inj.find? (·.key == o.key) with
    | none => exact h1 o ho
    | some x => exact h2 x (List.mem_of_find?_eq_some hf)
  · exact h2 i hi

end PGV.Proofs.TagScan
