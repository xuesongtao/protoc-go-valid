import PGV.Spec.Clauses
import PGV.Proofs.Walker

/-!
# The struct walker produces the report of `Spec.Clauses`

For every configuration, value tree and state: the walker's result is the state extended by the
report of the tree (`Spec.Clauses.sValidate` …).  Mutual structural induction over the value model;
the rule loop of a field (which takes the descent as a parameter) is treated once, for every descent
that satisfies the statement.
-/

namespace PGV.Proofs.Tree
open PGV PGV.Model PGV.Proofs.Walker PGV.Spec.Clauses

/-- run a report from a state -/
def runS (x : M (List Ev)) (st : WSt) : M WSt := x >>= fun evs => pure (replay evs st)

@[simp] theorem replay_nil (st : WSt) : replay [] st = st := rfl
@[simp] theorem replay_cons (e : Ev) (evs : List Ev) (st : WSt) : replay (e :: evs) st = replay evs (Ev.apply st e) := rfl
theorem replay_append (a b : List Ev) (st : WSt) : replay (a ++ b) st = replay b (replay a st) := by
  simp [replay, List.foldl_append]

@[simp] theorem runS_ok (evs : List Ev) (st : WSt) : runS (.ok evs) st = .ok (replay evs st) := rfl
@[simp] theorem runS_error (e : Stop) (st : WSt) : runS (.error e) st = .error e := rfl
@[simp] theorem runS_pure (evs : List Ev) (st : WSt) : runS (pure evs) st = .ok (replay evs st) := rfl

/-- sequencing two reports = running one after the other -/
theorem runS_seq (a b : M (List Ev)) (st : WSt) :
    runS (a >>= fun x => b >>= fun y => pure (x ++ y)) st = (runS a st >>= fun st' => runS b st') := by
  cases a with
  | error e => rfl
  | ok x =>
    cases b with
    | error e => rfl
    | ok y => show Except.ok (replay (x ++ y) st) = Except.ok (replay y (replay x st)); rw [replay_append]

theorem write_nil (st : WSt) : st.write [] = st := by cases st; simp [WSt.write]

/-- one rule item: its step is its contribution (`sItem`) replayed, for every descent that is itself a report -/
theorem fieldStep_spec (ext : Ext) (fns : FnTables) (scope sn fname : Bytes) (v : GoVal)
    (descend : Bool → Bool → Bytes → WSt → M WSt) (sdesc : Bool → Bool → Bytes → M (List Ev))
    (hd : ∀ a b c st, descend a b c st = runS (sdesc a b c) st) (d : Bool) (r : Bytes) (st : WSt) :
    fieldStep ext fns scope sn fname v descend d r st = runS (sItem ext fns scope sn fname v sdesc d r) st := by
  unfold fieldStep sItem
  cases r.isEmpty
  case true => rfl
  cases resolveFn fns (parseValidNameKV r).1 with
  | unknown => rfl
  | structural =>
    simp only [hd]
    cases (parseValidNameKV r).1 == requiredB
    case true => cases requiredEmpty v <;> rfl
    cases (parseValidNameKV r).1 == existB <;> rfl
  | custom mk => cases v.isZero <;> rfl
  | builtin run =>
    cases v.isZero
    case true => rfl
    simp only [Bool.false_eq_true, if_false]
    cases run ext r sn fname v <;> rfl

/-- the rule loop of a field = the report of its rule list, for every descent that is itself a report -/
theorem fieldRules_spec (ext : Ext) (fns : FnTables) (scope sn fname : Bytes) (v : GoVal)
    (descend : Bool → Bool → Bytes → WSt → M WSt) (sdesc : Bool → Bool → Bytes → M (List Ev))
    (hd : ∀ a b c st, descend a b c st = runS (sdesc a b c) st)
    (rs : List Bytes) (d : Bool) (st : WSt) :
    fieldRules ext fns scope sn fname v descend rs d st
      = runS (sRules ext fns scope sn fname v sdesc d rs) st := by
  induction rs generalizing d st with
  | nil => rw [fieldRules_nil]; rfl
  | cons r rs ih =>
    rw [fieldRules_cons, fieldStep_spec ext fns scope sn fname v descend sdesc hd, sRules, runS_seq]
    congr 1
    funext st'
    exact ih _ st'

theorem nonStruct_spec (n : Bytes) (v : GoVal) (g : Bool) (st : WSt) :
    nonStruct n v g st = runS (pure (sNonStruct n v g)) st := by
  unfold nonStruct sNonStruct
  cases g <;> rfl

theorem existScalar_spec (sn fname cus : Bytes) (v : GoVal) (k : Bool) (st : WSt) :
    existScalar sn fname cus v k st = replay (sExistScalar sn fname cus v k) st := by
  unfold existScalar sExistScalar
  cases k <;> rfl

theorem existScalar_spec_if (sn fname cus : Bytes) (v : GoVal) (k : Bool) (c : Bool) (st : WSt) :
    (pure (if c then st else existScalar sn fname cus v k st) : M WSt)
      = runS (pure (if c then [] else sExistScalar sn fname cus v k)) st := by
  cases c
  · simp only [Bool.false_eq_true, if_false, runS_pure]; rw [existScalar_spec]; rfl
  · rfl

theorem ite_spec (c : Prop) [Decidable c] (f g : WSt → M WSt) (x y : M (List Ev)) (st : WSt)
    (hf : f st = runS x st) (hg : g st = runS y st) :
    (if c then f st else g st) = runS (if c then x else y) st := by
  by_cases h : c
  · simp only [h, if_true]; exact hf
  · simp only [h, if_false]; exact hg

theorem bind_congr' {α β} {x y : M α} {f g : α → M β} (hx : x = y) (hf : ∀ a, f a = g a) : x >>= f = y >>= g := by
  rw [hx, funext hf]

theorem runS_bind {α} (x : M α) (f : α → M (List Ev)) (st : WSt) : runS (x >>= f) st = x >>= fun a => runS (f a) st := by
  cases x <;> rfl

/-- a map entry: mark, then the value's report, then the remaining entries' -/
theorem mark1_spec (a b : M (List Ev)) (st : WSt) :
    runS (a >>= fun x => b >>= fun y => pure (x ++ y)) (st.mark 1)
      = runS (a >>= fun x => b >>= fun y => pure (.mark 1 :: x ++ y)) st := by
  cases a with
  | error e => rfl
  | ok x => cases b <;> rfl

theorem mark0_spec (x : M (List Ev)) (st : WSt) :
    runS x (st.mark 0) = runS (x >>= fun a => pure (.mark 0 :: a)) st := by
  cases x <;> rfl

mutual
theorem validate_spec (cfg : StructCfg) (name : Bytes) (v : GoVal) (g : Bool) (st : WSt) :
    validate cfg name v g st = runS (sValidate cfg name v g) st := by
  cases v with
  | ptr t tgt =>
    cases tgt with
    | none => rfl
    | some x => rw [validate, sValidate]; exact validate_spec cfg name x g st
  | struct t n tm fs => rw [validate, sValidate]; exact fieldsLoop_spec cfg _ _ fs st
  | _ => exact nonStruct_spec _ _ _ st

theorem fieldsLoop_spec (cfg : StructCfg) (sn : Bytes) (cus : RM) (fs : Fields) (st : WSt) :
    fieldsLoop cfg sn cus fs st = runS (sFields cfg sn cus fs) st := by
  cases fs with
  | nil => rfl
  | cons name ex tt tags v rest =>
    rw [fieldsLoop_cons, sFields, runS_seq]
    refine bind_congr' ?_ fun st' => fieldsLoop_spec cfg sn cus rest st'
    exact ite_spec _ (fun st => pure st) _ _ _ st rfl
      (fieldRules_spec _ _ _ _ _ _ _ _ (fun a b c st => existTop_spec cfg sn name v a b c st) _ _ _)

theorem existTop_spec (cfg : StructCfg) (sn fname : Bytes) (v : GoVal) (k skip : Bool) (cus : Bytes) (st : WSt) :
    existTop cfg sn fname v k skip cus st = runS (sExistTop cfg sn fname v k skip cus) st := by
  cases v with
  | ptr t tgt =>
    cases tgt with
    | none => rfl
    | some x => rw [existTop, sExistTop]; exact existStripped_spec cfg sn fname x k skip cus st
  | struct t n tm fs =>
    rw [existTop, sExistTop]
    exact ite_spec _ (fun st => pure st) (fieldsLoop cfg _ _ fs) _ _ st rfl (fieldsLoop_spec cfg _ _ fs st)
  | slice t e n es =>
    rw [existTop, sExistTop]
    exact ite_spec _ (fun st => pure st) (elemsLoop cfg _ 0 es) _ _ st rfl (elemsLoop_spec cfg _ 0 es st)
  | array t e es =>
    rw [existTop, sExistTop]
    exact ite_spec _ (fun st => pure st) (elemsLoop cfg _ 0 es) _ _ st rfl (elemsLoop_spec cfg _ 0 es st)
  | map t ks n es =>
    rw [existTop, sExistTop]
    refine ite_spec _ (fun st => pure st) (fun st => entriesLoop cfg _ es (st.mark 0)) _ _ st rfl ?_
    exact (entriesLoop_spec cfg _ es (st.mark 0)).trans (mark0_spec _ st)
  | _ => exact existScalar_spec_if _ _ _ _ _ _ st

theorem existStripped_spec (cfg : StructCfg) (sn fname : Bytes) (v : GoVal) (k skip : Bool) (cus : Bytes) (st : WSt) :
    existStripped cfg sn fname v k skip cus st = runS (sExistStripped cfg sn fname v k skip cus) st := by
  cases v with
  | ptr t tgt =>
    cases tgt with
    | none => rfl
    | some x => rw [existStripped, sExistStripped]; exact existStripped_spec cfg sn fname x k skip cus st
  | struct t n tm fs =>
    rw [existStripped, sExistStripped]
    exact ite_spec _ (fun st => pure st) (fieldsLoop cfg _ _ fs) _ _ st rfl (fieldsLoop_spec cfg _ _ fs st)
  | slice t e n es =>
    rw [existStripped, sExistStripped]
    exact ite_spec _ (fun st => pure st) (elemsLoop cfg _ 0 es) _ _ st rfl (elemsLoop_spec cfg _ 0 es st)
  | array t e es =>
    rw [existStripped, sExistStripped]
    exact ite_spec _ (fun st => pure st) (elemsLoop cfg _ 0 es) _ _ st rfl (elemsLoop_spec cfg _ 0 es st)
  | map t ks n es =>
    rw [existStripped, sExistStripped]
    refine ite_spec _ (fun st => pure st) (fun st => entriesLoop cfg _ es (st.mark 0)) _ _ st rfl ?_
    exact (entriesLoop_spec cfg _ es (st.mark 0)).trans (mark0_spec _ st)
  | _ => exact congrArg Except.ok (existScalar_spec _ _ _ _ _ st)

theorem elemsLoop_spec (cfg : StructCfg) (path : Bytes) (i : Nat) (es : GoVals) (st : WSt) :
    elemsLoop cfg path i es st = runS (sElems cfg path i es) st := by
  cases es with
  | nil => rfl
  | cons v rest =>
    rw [elemsLoop, sElems, runS_seq]
    exact bind_congr' (validate_spec cfg _ v true st) fun st' => elemsLoop_spec cfg path (i + 1) rest st'

theorem entriesLoop_spec (cfg : StructCfg) (pathOpen : Bytes) (es : Entries) (st : WSt) :
    entriesLoop cfg pathOpen es st = runS (sEntries cfg pathOpen es) st := by
  cases es with
  | nil => rfl
  | cons k v rest =>
    rw [entriesLoop, sEntries, runS_bind]
    refine bind_congr' rfl fun ks => ?_
    rw [← mark1_spec, runS_seq]
    exact bind_congr' (validate_spec cfg _ v true _) fun st' => entriesLoop_spec cfg pathOpen rest st'
end

end PGV.Proofs.Tree
