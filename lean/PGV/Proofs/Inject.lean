import PGV.Spec.Inject

/-!
# Tag injector: `override` = `merge`, the laws of `merge`, and reverse-order splicing
-/

namespace PGV.Proofs.Inject
open PGV PGV.Model PGV.Model.Inject PGV.Spec.Inject

/-! ### `merge` -/

/-- the replacement function of `merge` -/
def upd (inj : TagItems) (o : TagItem) : TagItem :=
  match inj.find? (·.key == o.key) with | some i => i | none => o

theorem merge_def (old inj : TagItems) :
    merge old inj = old.map (upd inj) ++ inj.filter (fun i => !(keys old).contains i.key) := rfl

theorem mem_keys {i : TagItem} {l : TagItems} (h : i ∈ l) : i.key ∈ keys l :=
  List.mem_map_of_mem h

theorem find?_key_eq_none {k : Bytes} {l : TagItems} : l.find? (·.key == k) = none ↔ k ∉ keys l := by
  simp only [List.find?_eq_none, keys, List.mem_map, beq_iff_eq]
  exact ⟨fun h ⟨x, hx, e⟩ => h x hx e, fun h x hx e => h ⟨x, hx, e⟩⟩

theorem upd_key (inj : TagItems) (o : TagItem) : (upd inj o).key = o.key := by
  unfold upd
  cases h : inj.find? (·.key == o.key) with
  | none => rfl
  | some i => simpa using List.find?_some h

theorem upd_unmentioned (inj : TagItems) (o : TagItem) (h : o.key ∉ keys inj) : upd inj o = o := by
  rw [upd, find?_key_eq_none.mpr h]

theorem keys_merge (old inj : TagItems) :
    keys (merge old inj) = keys old ++ (keys inj).filter (fun k => !(keys old).contains k) := by
  simp only [merge_def, keys, List.map_append, List.map_map, List.filter_map]
  congr 2
  funext o; exact upd_key inj o

/-- no key is duplicated -/
theorem merge_nodup (old inj : TagItems) (h1 : (keys old).Nodup) (h2 : (keys inj).Nodup) :
    (keys (merge old inj)).Nodup := by
  rw [keys_merge, List.nodup_append]
  refine ⟨h1, h2.filter _, ?_⟩
  rintro a ha _ hb rfl
  simp [ha] at hb

/-- position and value of the keys the comment does not mention are kept; mentioned keys keep their
position and take the comment's item -/
theorem merge_positions (old inj : TagItems) (i : Nat) (h : i < old.length) :
    (merge old inj)[i]? = (old[i]?).map (upd inj) := by
  rw [merge_def, List.getElem?_append_left (by simpa using h), List.getElem?_map]

theorem find?_map_upd (old inj : TagItems) (k : Bytes) :
    (old.map (upd inj)).find? (·.key == k) = (old.find? (·.key == k)).map (upd inj) := by
  rw [List.find?_map]; congr 2; funext o; simp [upd_key]

/-- every key of the comment ends up with exactly the comment's value -/
theorem merge_lookup_new (old inj : TagItems) (k : Bytes) (hk : k ∈ keys inj) :
    lookup k (merge old inj) = lookup k inj := by
  unfold lookup
  rw [merge_def, List.find?_append, find?_map_upd]
  cases hold : old.find? (·.key == k) with
  | some o =>
    -- the field has the key: its item is replaced by the comment's first item with that key
    have hok : o.key = k := by simpa using List.find?_some hold
    cases hinj : inj.find? (·.key == k) with
    | none => exact absurd hk (find?_key_eq_none.mp hinj)
    | some i => rw [Option.map_some, Option.some_or, upd, hok, hinj]
  | none =>
    -- it does not: the comment's items with that key all survive the filter
    have hnot := find?_key_eq_none.mp hold
    rw [Option.map_none, Option.none_or, List.find?_filter]
    congr 2; funext i
    by_cases hi : i.key = k
    · subst hi; simp [hnot]
    · simp [hi]

theorem find?_self_of_nodup (inj : TagItems) (x : TagItem) (hx : x ∈ inj) (hnd : (keys inj).Nodup) :
    inj.find? (·.key == x.key) = some x := by
  induction inj with
  | nil => simp at hx
  | cons i r ih =>
    obtain ⟨hi, hr⟩ : i.key ∉ keys r ∧ (keys r).Nodup := List.nodup_cons.mp hnd
    rcases List.mem_cons.mp hx with rfl | e
    · simp
    · rw [List.find?_cons_of_neg (by simpa using fun he : i.key = x.key => hi (he ▸ mem_keys e))]
      exact ih e hr

theorem upd_idem (inj : TagItems) (o : TagItem) : upd inj (upd inj o) = upd inj o := by
  unfold upd
  cases h : inj.find? (·.key == o.key) with
  | none => simp [h]
  | some i =>
    have hik : i.key = o.key := by simpa using List.find?_some h
    simp only [hik, h]

/-- idempotence: injecting the same comment again changes nothing -/
theorem merge_idem (old inj : TagItems) (hnd : (keys inj).Nodup) :
    merge (merge old inj) inj = merge old inj := by
  have hfilter : inj.filter (fun i => !(keys (merge old inj)).contains i.key) = [] := by
    rw [List.filter_eq_nil_iff]
    intro i hi
    by_cases h : i.key ∈ keys old <;> simp [keys_merge, h, mem_keys hi]
  rw [merge_def (merge old inj) inj, hfilter, List.append_nil, merge_def old inj, List.map_append,
    List.map_map]
  congr 1
  · exact List.map_congr_left fun o _ => upd_idem inj o
  · -- appended items are items of `inj`: with distinct keys each is its own first occurrence
    conv => rhs; rw [← List.map_id (inj.filter _)]
    refine List.map_congr_left fun x hx => ?_
    rw [upd, find?_self_of_nodup inj x (List.mem_filter.mp hx).1 hnd]; rfl

/-! ### `override`: with distinct keys it is `merge` -/

/-- the injected items without key `k` -/
def without (k : Bytes) (inj : TagItems) : TagItems := inj.filter fun i => !(i.key == k)

theorem nodup_without (k : Bytes) {inj : TagItems} (h : (keys inj).Nodup) :
    (keys (without k inj)).Nodup :=
  h.sublist (List.filter_sublist.map _)

/-- with distinct keys, `takeKey` finds the item and leaves the others -/
theorem takeKey_eq (k : Bytes) (inj : TagItems) (hnd : (keys inj).Nodup) :
    takeKey k inj = (inj.find? (·.key == k)).map fun x => (x, without k inj) := by
  induction inj with
  | nil => rfl
  | cons i rest ih =>
    obtain ⟨hi, hrest⟩ : i.key ∉ keys rest ∧ (keys rest).Nodup := List.nodup_cons.mp hnd
    rw [takeKey, List.find?_cons, without, List.filter_cons]
    by_cases hk : (i.key == k) = true
    · have : ∀ j ∈ rest, (!(j.key == k)) = true := fun j hj => by
        simp only [Bool.not_eq_true', beq_eq_false_iff_ne]
        exact fun e => hi (eq_of_beq hk ▸ e ▸ mem_keys hj)
      simp [hk, List.filter_eq_self.mpr this]
    · simp only [hk, ih hrest, Option.map_map, Bool.not_false, if_true, Bool.false_eq_true, if_false]
      rfl

/-- so `override` walks the field's items like `merge` does -/
theorem override_cons (t : TagItem) (rest inj : TagItems) (hnd : (keys inj).Nodup) :
    override (t :: rest) inj = upd inj t :: override rest (without t.key inj) := by
  rw [override, takeKey_eq _ _ hnd, upd]
  cases h : inj.find? (·.key == t.key) with
  | some x => rfl
  | none =>
    rw [without, List.filter_eq_self.mpr fun a ha => by simpa using List.find?_eq_none.mp h a ha]
    rfl

theorem upd_without (k : Bytes) (inj : TagItems) (o : TagItem) (h : o.key ≠ k) :
    upd (without k inj) o = upd inj o := by
  rw [upd, upd, without, List.find?_filter]
  congr 2; funext i
  by_cases hi : i.key = o.key <;> simp [hi, h]

/-- the code's `override` is the spec's `merge` whenever neither side repeats a key -/
theorem override_eq_merge (old inj : TagItems) (h1 : (keys old).Nodup) (h2 : (keys inj).Nodup) :
    override old inj = merge old inj := by
  induction old generalizing inj with
  | nil => simpa [override, merge, keys] using (List.filter_eq_self.mpr fun _ _ => rfl).symm
  | cons t rest ih =>
    obtain ⟨ht, hrest⟩ : t.key ∉ keys rest ∧ (keys rest).Nodup := List.nodup_cons.mp h1
    rw [override_cons _ _ _ h2, ih _ hrest (nodup_without _ h2), merge_def, merge_def, List.map_cons,
      List.cons_append, without, List.filter_filter]
    congr 2
    · exact List.map_congr_left fun o ho => upd_without _ _ _ fun e => ht (e ▸ mem_keys ho)
    · exact List.filter_congr fun i _ => by
        rw [show keys (t :: rest) = t.key :: keys rest from rfl, List.contains_cons, Bool.not_or,
          Bool.and_comm]

/-! ### splicing: areas applied from the end of the file backwards = rewriting every annotated literal in place -/

theorem sliceM_of_le (s : Bytes) (lo hi : Nat) (h1 : lo ≤ hi) (h2 : hi ≤ s.length) :
    sliceM s lo hi = pure ((s.take hi).drop lo) := by
  simp [sliceM, Bytes.slice?, h1, h2]

theorem pos0_pos (p : Nat) (h : 1 ≤ p) : pos0 p = pure (p - 1) := by
  rw [pos0, if_neg (by omega)]

theorem render_cons (c : Chunk) (cs : List Chunk) : render (c :: cs) = c.render ++ render cs := rfl

theorem writeAreas_append (c : Bytes) (l1 l2 : List Area) :
    writeAreas c (l1 ++ l2) = (writeAreas c l1 >>= fun c' => writeAreas c' l2) := by
  induction l1 generalizing c with
  | nil => simp [writeAreas]
  | cons a r ih => simp only [List.cons_append, writeAreas, bind_assoc, ih]

/-- one round of the loop of `WriteFile`, when the slice taken for the log line is in bounds -/
theorem writeAreas_cons (c : Bytes) (a : Area) (rest : List Area) (h1 : 1 ≤ a.start)
    (h2 : a.start ≤ a.end_) (h3 : a.end_ ≤ c.length + 1) :
    writeAreas c (a :: rest) = injectTag c a >>= fun c' => writeAreas c' rest := by
  rw [writeAreas, pos0_pos _ h1, pos0_pos _ (by omega), pure_bind, pure_bind,
    sliceM_of_le _ _ _ (by omega) (by omega), pure_bind]

/-- `injectTag` on any text: what lies between the two positions is replaced -/
theorem injectTag_splice (pre mid post : Bytes) (a : Area) (hs : a.tagStart = pre.length + 1)
    (he : a.tagEnd = pre.length + mid.length + 1) :
    injectTag (pre ++ mid ++ post) a
      = pure (pre ++ [96] ++ newTextWith override a.currentTag a.injectTag ++ [96] ++ post) := by
  have e : pre.length + mid.length = (pre ++ mid).length := List.length_append.symm
  rw [injectTag, hs, he, pos0_pos _ (by omega), pos0_pos _ (by omega), pure_bind,
    Nat.add_sub_cancel, Nat.add_sub_cancel, e,
    sliceM_of_le _ 0 _ (Nat.zero_le _) (by simp), pure_bind, pure_bind,
    sliceM_of_le _ _ _ (by simp) (Nat.le_refl _), pure_bind, List.take_length, List.drop_left,
    List.append_assoc pre, List.take_left]
  rfl

/-- the areas reported for the chunks, with any field span `[start, end)` that lies in front of / ends with the literal -/
def AreasMatch : Nat → List Chunk → List Area → Prop
  | _, [], areas => areas = []
  | off, .plain bs :: rest, areas => AreasMatch (off + bs.length) rest areas
  | off, .tagged text inj :: rest, areas =>
    ∃ a as, areas = a :: as ∧ a.tagStart = off + 1 ∧ a.tagEnd = off + text.length + 3 ∧ a.currentTag = text ∧
      a.injectTag = inj ∧ 1 ≤ a.start ∧ a.start ≤ a.end_ ∧ a.end_ ≤ a.tagEnd ∧ AreasMatch (off + text.length + 2) rest as

/-- **reverse-order splicing** (`WriteFile`): for every file seen as chunks — any number and placement
of annotated literals, any bytes in between — applying the areas from the last to the first yields
the file in which exactly the annotated literals have their new content -/
theorem writeAreas_chunks (pre : Bytes) (cs : List Chunk) (areas : List Area) (h : AreasMatch pre.length cs areas) :
    writeAreas (pre ++ render cs) areas.reverse = pure (pre ++ render (injectWith override cs)) := by
  induction cs generalizing pre areas with
  | nil => cases h; rfl
  | cons c rest ih =>
    cases c with
    | plain bs =>
      have := ih (pre ++ bs) areas (by rw [List.length_append]; exact h)
      rwa [List.append_assoc, List.append_assoc] at this
    | tagged text inj =>
      obtain ⟨a, as, rfl, hs, he, hc, hi, h1, h2, h3, hrest⟩ := h
      have hl : (pre ++ Chunk.render (.tagged text inj)).length = pre.length + text.length + 2 := by
        simp [Chunk.render]; omega
      -- the areas behind this literal leave everything up to its end alone; then this one is applied
      rw [List.reverse_cons, writeAreas_append, render_cons, ← List.append_assoc,
        ih _ as (hl ▸ hrest), pure_bind,
        writeAreas_cons _ _ _ h1 h2 (by rw [List.length_append, hl]; omega),
        injectTag_splice pre _ _ a hs (by simp [Chunk.render, he]; omega), hc, hi]
      simp [writeAreas, injectWith, render_cons, Chunk.render, Chunk.injectWith]

theorem writeFile_chunks (cs : List Chunk) (areas : List Area) (h : AreasMatch 0 cs areas) :
    writeFile (render cs) areas = .ok (render (injectWith override cs)) :=
  writeAreas_chunks [] cs areas h

/-- with distinct keys on both sides the code's result is the spec's -/
theorem injectWith_override_eq (cs : List Chunk) (h : ∀ c ∈ cs, c.distinctKeys) :
    injectWith override cs = Spec.Inject.inject cs := by
  refine List.map_congr_left fun c hc => ?_
  cases c with
  | plain bs => rfl
  | tagged text inj =>
    obtain ⟨h1, h2⟩ := h _ hc
    simp only [Chunk.injectWith, newTextWith, override_eq_merge _ _ h1 h2]

end PGV.Proofs.Inject
