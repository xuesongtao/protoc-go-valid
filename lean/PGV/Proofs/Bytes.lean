import PGV.Basic

/-!
# Lemmas about the byte-string primitives of `PGV.Basic`

`hasByte`, `indexByte?` over appends, `join`, and `takeWhile` up to the first byte that fails.
-/

namespace PGV.Bytes

theorem hasByte_eq_false {s : Bytes} {c : UInt8} : hasByte s c = false ↔ c ∉ s := by
  simp only [hasByte, List.any_eq_false, beq_iff_eq]
  exact ⟨fun h hc => h c hc rfl, fun h x hx hxc => h (hxc ▸ hx)⟩

/-! ### `indexByte?` -/

theorem indexByte?_of_not_mem (c : UInt8) (s : Bytes) (h : c ∉ s) :
    indexByte? c s = none := by
  induction s with
  | nil => rfl
  | cons x t ih =>
    have hx : x ≠ c := fun e => h (by simp [e])
    have := ih (fun e => h (by simp [e]))
    simp [indexByte?, hx, this]

theorem indexByte?_append_of_not_mem (c : UInt8) (x y : Bytes) (h : c ∉ x) :
    indexByte? c (x ++ y) = (indexByte? c y).map (· + x.length) := by
  induction x with
  | nil => simp
  | cons a t ih =>
    have ha : a ≠ c := fun e => h (by simp [e])
    have := ih (fun e => h (by simp [e]))
    simp only [List.cons_append, indexByte?, beq_iff_eq, ha, if_false, this, Option.map_map]
    cases indexByte? c y <;> simp [Nat.add_assoc]

theorem indexByte?_cons_self (c : UInt8) (y : Bytes) : indexByte? c (c :: y) = some 0 := by
  simp [indexByte?]

theorem indexByte?_append_cons (c : UInt8) (x y : Bytes) (h : c ∉ x) :
    indexByte? c (x ++ c :: y) = some x.length := by
  rw [indexByte?_append_of_not_mem c x _ h, indexByte?_cons_self]; simp

/-! ### `join` -/

theorem join_cons_of_ne_nil (sep : Bytes) (a : Bytes) (l : List Bytes) (h : l ≠ []) :
    join sep (a :: l) = a ++ sep ++ join sep l := by
  cases l with
  | nil => exact absurd rfl h
  | cons x l => rfl

theorem join_snoc_nil (sep : Bytes) (l : List Bytes) (h : l ≠ []) :
    join sep (l ++ [[]]) = join sep l ++ sep := by
  induction l with
  | nil => exact absurd rfl h
  | cons a l ih =>
    cases l with
    | nil => simp [join]
    | cons x l =>
      rw [List.cons_append, join_cons_of_ne_nil _ _ (x :: l ++ [[]]) (by simp), ih (by simp),
        join_cons_of_ne_nil _ a (x :: l) (by simp)]
      simp only [List.append_assoc]

theorem join_ne_nil (sep : Bytes) (a : Bytes) (l : List Bytes) (ha : a ≠ []) :
    join sep (a :: l) ≠ [] := by
  cases l with
  | nil => exact ha
  | cons x l => simp [join, ha]

/-! ### `takeWhile` -/

theorem takeWhile_append_stop {p : UInt8 → Bool} (a : Bytes) (c : UInt8) (t : Bytes)
    (ha : ∀ x ∈ a, p x = true) (hc : p c = false) : (a ++ c :: t).takeWhile p = a := by
  rw [List.takeWhile_append_of_pos ha, List.takeWhile_cons_of_neg (by simp [hc]), List.append_nil]

theorem mem_takeWhile {p : UInt8 → Bool} {s : Bytes} {x : UInt8} (h : x ∈ s.takeWhile p) :
    p x = true := by
  induction s with
  | nil => simp at h
  | cons a t ih =>
    rw [List.takeWhile_cons] at h
    split at h
    · rcases List.mem_cons.mp h with rfl | h
      · assumption
      · exact ih h
    · simp at h

theorem drop_takeWhile (p : UInt8 → Bool) (s : Bytes) :
    s.drop (s.takeWhile p).length = s.dropWhile p := by
  conv => lhs; arg 2; rw [← List.takeWhile_append_dropWhile (p := p) (l := s)]
  exact List.drop_left

end PGV.Bytes
