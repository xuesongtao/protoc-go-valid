import PGV.Proofs.Tree

/-!
# The walkers only append

`Frame f`: running `f` from any state is running it from the empty state and appending what that
run produced (text, group members, ghost marks shifted by the text already there).  Every walker
function has this property, for every configuration and value tree.
-/

namespace PGV.Proofs.Frame
open PGV PGV.Model

/-- append what a run from the empty state produced (`o`) to a state -/
def app (st o : WSt) : WSt :=
  { buf := st.buf ++ o.buf, members := st.members ++ o.members,
    marks := st.marks ++ o.marks.map (fun p => (p.1, p.2 + st.buf.length)) }

theorem app_empty_left (o : WSt) : app {} o = o := by
  cases o with
  | mk b m k =>
    simp only [app, List.nil_append, List.length_nil, Nat.add_zero]
    congr 1
    induction k with
    | nil => rfl
    | cons x xs ih => simp [ih]

theorem app_empty_right (st : WSt) : app st {} = st := by
  cases st; simp [app]

theorem app_assoc (st a c : WSt) : app (app st a) c = app st (app a c) := by
  simp only [app, List.append_assoc, List.map_append, List.map_map, List.length_append]
  congr 2
  congr 1
  apply List.map_congr_left
  intro p _
  simp only [Function.comp]
  congr 1
  omega

/-- lift a result obtained from the empty state onto `st` -/
def lift (st : WSt) (x : M WSt) : M WSt := x >>= fun o => pure (app st o)

def Frame (f : WSt → M WSt) : Prop := ∀ st, f st = lift st (f {})

theorem lift_ok (st o : WSt) : lift st (.ok o) = .ok (app st o) := rfl
theorem lift_error (st : WSt) (e : Stop) : lift st (.error e) = .error e := rfl

theorem Frame_pure : Frame (fun st => pure st) := by
  intro st; show Except.ok st = lift st (Except.ok {}); rw [lift_ok, app_empty_right]

theorem Frame_write (t : Bytes) : Frame (fun st => pure (st.write t)) := by
  intro st
  show Except.ok (st.write t) = lift st (Except.ok (({} : WSt).write t))
  rw [lift_ok]; simp [app, WSt.write]

theorem Frame_member (m : Member) : Frame (fun st => pure { st with members := st.members ++ [m] }) := by
  intro st
  show Except.ok _ = lift st (Except.ok _)
  rw [lift_ok]; simp [app]

theorem Frame_bind (f g : WSt → M WSt) (hf : Frame f) (hg : Frame g) : Frame (fun st => f st >>= g) := by
  intro st
  show f st >>= g = lift st (f {} >>= g)
  rw [hf st]
  cases hfe : f {} with
  | error e => rfl
  | ok o =>
    show g (app st o) = lift st (g o)
    rw [hg (app st o), hg o]
    cases hge : g {} with
    | error e => rfl
    | ok p =>
      show Except.ok (app (app st o) p) = Except.ok (app st (app o p))
      rw [app_assoc]

/-- what follows a computation can be run from the empty state and appended -/
theorem bind_lift (x : M WSt) (g : WSt → M WSt) (hg : Frame g) : x >>= g = x >>= fun a => lift a (g {}) :=
  bind_congr hg

/-- a computation that does not look at the state, followed by a state function per result -/
theorem Frame_bind_const {α} (x : M α) (g : α → WSt → M WSt) (hg : ∀ a, Frame (g a)) :
    Frame (fun st => x >>= fun a => g a st) := by
  intro st
  cases x with
  | error e => rfl
  | ok a => exact hg a st

theorem Frame_ite (c : Prop) [Decidable c] (f g : WSt → M WSt) (hf : Frame f) (hg : Frame g) :
    Frame (fun st => if c then f st else g st) := by
  intro st
  by_cases h : c
  · simp only [h, if_true]; exact hf st
  · simp only [h, if_false]; exact hg st

end PGV.Proofs.Frame

namespace PGV.Proofs.Frame
open PGV PGV.Model PGV.Proofs.Walker

open PGV.Spec.Clauses (descAfter)

theorem Frame_fieldStep (ext : Ext) (fns : FnTables) (scope sn fname : Bytes) (v : GoVal)
    (descend : Bool → Bool → Bytes → WSt → M WSt) (hd : ∀ a b c, Frame (descend a b c))
    (d : Bool) (r : Bytes) : Frame (fieldStep ext fns scope sn fname v descend d r) := by
  unfold fieldStep
  refine Frame_ite _ _ _ Frame_pure ?_
  split
  · exact Frame_write _
  · exact Frame_ite _ _ _ (Frame_ite _ _ _ (Frame_write _) (hd _ _ _)) (Frame_ite _ _ _ (hd _ _ _) (Frame_member _))
  · cases v.isZero
    · exact Frame_write _
    · exact Frame_pure
  · exact Frame_ite _ _ _ Frame_pure (Frame_bind_const _ _ fun t => Frame_write t)

theorem Frame_fieldRules (ext : Ext) (fns : FnTables) (scope sn fname : Bytes) (v : GoVal)
    (descend : Bool → Bool → Bytes → WSt → M WSt) (hd : ∀ a b c, Frame (descend a b c))
    (rs : List Bytes) (d : Bool) : Frame (fieldRules ext fns scope sn fname v descend rs d) := by
  induction rs generalizing d with
  | nil => exact Frame_pure
  | cons r rs ih =>
    intro st; simp only [fieldRules_cons]
    exact Frame_bind _ _ (Frame_fieldStep ext fns scope sn fname v descend hd d r) (ih _) st

theorem Frame_flatStep (c : FlatCfg) (scope ne nc : Bytes) (v : GoVal) (r : Bytes) :
    Frame (flatStep c scope ne nc v r) := by
  unfold flatStep
  refine Frame_ite _ _ _ Frame_pure ?_
  split
  · exact Frame_write _
  · refine Frame_ite _ _ _ ?_ ?_
    · cases c.requiredViolated v
      · exact Frame_pure
      · exact Frame_write _
    · cases c.supportsGroups && ((parseValidNameKV r).1 == eitherB || (parseValidNameKV r).1 == bothEqB)
      · exact Frame_write _
      · exact Frame_member _
  · cases c.isEmpty v
    · exact Frame_write _
    · exact Frame_pure
  · exact Frame_ite _ _ _ Frame_pure (Frame_bind_const _ _ fun t => Frame_write t)

theorem Frame_flatRules (c : FlatCfg) (scope ne nc : Bytes) (v : GoVal) (rs : List Bytes) :
    Frame (flatRules c scope ne nc v rs) := by
  induction rs with
  | nil => exact Frame_pure
  | cons r rs ih =>
    intro st; simp only [flatRules_cons]
    exact Frame_bind _ _ (Frame_flatStep c scope ne nc v r) ih st

end PGV.Proofs.Frame

namespace PGV.Proofs.Frame
open PGV PGV.Model PGV.Proofs.Walker

/-! ### the struct walker: it replays a report (`Proofs.Tree`), and replaying only appends -/

open PGV.Spec.Clauses PGV.Proofs.Tree

theorem replay_app (evs : List Ev) (st : WSt) : replay evs st = app st (replay evs {}) := by
  induction evs generalizing st with
  | nil => exact (app_empty_right st).symm
  | cons e evs ih =>
    rw [replay_cons, replay_cons, ih, ih (Ev.apply {} e), ← app_assoc]
    congr 1
    cases e <;> simp [Ev.apply, app, WSt.write, WSt.mark]

theorem Frame_of_spec {f : WSt → M WSt} {x : M (List Ev)} (h : ∀ st, f st = runS x st) : Frame f := by
  intro st
  rw [h st, h {}]
  cases x with
  | error e => rfl
  | ok evs => exact congrArg Except.ok (replay_app evs st)

theorem Frame_validate (cfg : StructCfg) (name : Bytes) (v : GoVal) (g : Bool) : Frame (validate cfg name v g) :=
  Frame_of_spec (validate_spec cfg name v g)

theorem Frame_fieldsLoop (cfg : StructCfg) (sn : Bytes) (cus : RM) (fs : Fields) : Frame (fieldsLoop cfg sn cus fs) :=
  Frame_of_spec (fieldsLoop_spec cfg sn cus fs)

theorem Frame_existTop (cfg : StructCfg) (sn fname : Bytes) (v : GoVal) (k skip : Bool) (cus : Bytes) :
    Frame (existTop cfg sn fname v k skip cus) :=
  Frame_of_spec (existTop_spec cfg sn fname v k skip cus)

theorem Frame_existStripped (cfg : StructCfg) (sn fname : Bytes) (v : GoVal) (k skip : Bool) (cus : Bytes) :
    Frame (existStripped cfg sn fname v k skip cus) :=
  Frame_of_spec (existStripped_spec cfg sn fname v k skip cus)

theorem Frame_elemsLoop (cfg : StructCfg) (path : Bytes) (i : Nat) (es : GoVals) : Frame (elemsLoop cfg path i es) :=
  Frame_of_spec (elemsLoop_spec cfg path i es)

theorem Frame_entriesLoop (cfg : StructCfg) (pathOpen : Bytes) (es : Entries) : Frame (entriesLoop cfg pathOpen es) :=
  Frame_of_spec (entriesLoop_spec cfg pathOpen es)

end PGV.Proofs.Frame
