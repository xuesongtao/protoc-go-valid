import PGV.Spec.Clauses

/-!
# The walkers' rule loops, one item at a time

`fieldRules` (struct fields) and `flatRules` (`Var` / `Map` / `Url`) are folds of a step, `fieldStep` /
`flatStep`: what ONE rule item does to the state (`fieldRules_cons`, `flatRules_cons`).  Everything
else that is proved about the loops is proved about the step.
-/

namespace PGV.Proofs.Walker
open PGV PGV.Model
open PGV.Spec.Clauses (descAfter)

theorem isEmpty_false {r : Bytes} (hr : r ≠ []) : r.isEmpty = false := by cases r <;> simp_all

section struct
variable (ext : Ext) (fns : FnTables) (scope sn fname : Bytes) (v : GoVal)
  (descend : Bool → Bool → Bytes → WSt → M WSt)

/-- what ONE rule item of a struct field does to the state; `d` = a `required` / `exist` item came earlier -/
def fieldStep (d : Bool) (r : Bytes) (st : WSt) : M WSt :=
  if r.isEmpty then pure st
  else match resolveFn fns (parseValidNameKV r).1 with
    | .unknown => pure (st.write (getJoinFieldErr sn fname (unknownFnMsg (parseValidNameKV r).1)))
    | .structural =>
      if (parseValidNameKV r).1 == requiredB then
        (if requiredEmpty v then pure (st.write (requiredClause sn fname (parseValidNameKV r).2.2))
         else descend false d (parseValidNameKV r).2.2 st)
      else if (parseValidNameKV r).1 == existB then descend true d (parseValidNameKV r).2.2 st
      else pure { st with members := st.members ++ [{ scope := scope, validName := r, objName := sn, fieldName := fname, val := v }] }
    | .custom mk => pure (if v.isZero then st else st.write (customClause mk r sn fname))
    | .builtin run => if v.isZero then pure st else run ext r sn fname v >>= fun t => pure (st.write t)

theorem fieldRules_nil (d : Bool) (st : WSt) :
    fieldRules ext fns scope sn fname v descend [] d st = pure st := by rw [fieldRules]

/-- the rule loop of a field is the fold of `fieldStep` -/
theorem fieldRules_cons (r : Bytes) (rs : List Bytes) (d : Bool) (st : WSt) :
    fieldRules ext fns scope sn fname v descend (r :: rs) d st
      = (fieldStep ext fns scope sn fname v descend d r st >>=
          fieldRules ext fns scope sn fname v descend rs (descAfter fns d r)) := by
  rw [fieldRules]; unfold fieldStep descAfter
  cases hr : r.isEmpty
  case true => rfl
  rcases parseValidNameKV r with ⟨key, a, m⟩
  simp only [Bool.false_eq_true, if_false]
  cases resolveFn fns key with
  | unknown => rfl
  | structural =>
    cases key == requiredB
    case true => cases requiredEmpty v <;> simp only [if_true, Bool.true_or, Bool.false_eq_true, if_false] <;> rfl
    cases key == existB <;> simp only [Bool.false_eq_true, if_false, if_true, Bool.or_self, Bool.or_true] <;> rfl
  | custom mk => cases v.isZero <;> rfl
  | builtin run =>
    cases v.isZero
    case true => rfl
    simp only [Bool.false_eq_true, if_false]
    cases run ext r sn fname v
    all_goals rfl


theorem fieldRules_empty (rs : List Bytes) (d : Bool) (st : WSt) :
    fieldRules ext fns scope sn fname v descend ([] :: rs) d st
      = fieldRules ext fns scope sn fname v descend rs d st := by rw [fieldRules_cons]; rfl

theorem fieldRules_unknown (r : Bytes) (rs : List Bytes) (d : Bool) (st : WSt) (hr : r ≠ [])
    (hk : resolveFn fns (parseValidNameKV r).1 = .unknown) :
    fieldRules ext fns scope sn fname v descend (r :: rs) d st
      = fieldRules ext fns scope sn fname v descend rs d
          (st.write (getJoinFieldErr sn fname (unknownFnMsg (parseValidNameKV r).1))) := by
  rw [fieldRules_cons]; simp only [fieldStep, descAfter, isEmpty_false hr, hk]; rfl

theorem fieldRules_required_empty (r : Bytes) (rs : List Bytes) (d : Bool) (st : WSt) (hr : r ≠ [])
    (hk : resolveFn fns (parseValidNameKV r).1 = .structural) (hreq : (parseValidNameKV r).1 = requiredB)
    (hz : requiredEmpty v = true) :
    fieldRules ext fns scope sn fname v descend (r :: rs) d st
      = fieldRules ext fns scope sn fname v descend rs true
          (st.write (requiredClause sn fname (parseValidNameKV r).2.2)) := by
  rw [fieldRules_cons]; simp only [fieldStep, descAfter, isEmpty_false hr, hk, beq_iff_eq.mpr hreq, hz]; rfl

theorem fieldRules_required_supplied (r : Bytes) (rs : List Bytes) (d : Bool) (st : WSt) (hr : r ≠ [])
    (hk : resolveFn fns (parseValidNameKV r).1 = .structural) (hreq : (parseValidNameKV r).1 = requiredB)
    (hz : requiredEmpty v = false) :
    fieldRules ext fns scope sn fname v descend (r :: rs) d st
      = (descend false d (parseValidNameKV r).2.2 st >>= fun st' =>
          fieldRules ext fns scope sn fname v descend rs true st') := by
  rw [fieldRules_cons]; simp only [fieldStep, descAfter, isEmpty_false hr, hk, beq_iff_eq.mpr hreq, hz]; rfl

theorem fieldRules_exist (r : Bytes) (rs : List Bytes) (d : Bool) (st : WSt) (hr : r ≠ [])
    (hk : resolveFn fns (parseValidNameKV r).1 = .structural) (hex : (parseValidNameKV r).1 = existB) :
    fieldRules ext fns scope sn fname v descend (r :: rs) d st
      = (descend true d (parseValidNameKV r).2.2 st >>= fun st' =>
          fieldRules ext fns scope sn fname v descend rs true st') := by
  rw [fieldRules_cons]; have : (existB == requiredB) = false := by decide
  simp only [fieldStep, descAfter, isEmpty_false hr, hex ▸ hk, hex, this]; rfl

theorem fieldRules_group (r : Bytes) (rs : List Bytes) (d : Bool) (st : WSt) (hr : r ≠ [])
    (hk : resolveFn fns (parseValidNameKV r).1 = .structural)
    (h1 : (parseValidNameKV r).1 ≠ requiredB) (h2 : (parseValidNameKV r).1 ≠ existB) :
    fieldRules ext fns scope sn fname v descend (r :: rs) d st
      = fieldRules ext fns scope sn fname v descend rs d
          { st with members := st.members ++ [{ scope := scope, validName := r, objName := sn, fieldName := fname, val := v }] } := by
  rw [fieldRules_cons]; simp only [fieldStep, descAfter, isEmpty_false hr, hk, beq_eq_false_iff_ne.mpr h1, beq_eq_false_iff_ne.mpr h2]; rfl

theorem fieldRules_custom_zero (r mk : Bytes) (rs : List Bytes) (d : Bool) (st : WSt) (hr : r ≠ [])
    (hk : resolveFn fns (parseValidNameKV r).1 = .custom mk) (hz : v.isZero = true) :
    fieldRules ext fns scope sn fname v descend (r :: rs) d st
      = fieldRules ext fns scope sn fname v descend rs d st := by
  rw [fieldRules_cons]; simp only [fieldStep, descAfter, isEmpty_false hr, hk, hz]; rfl

theorem fieldRules_builtin_zero (r : Bytes) (run) (rs : List Bytes) (d : Bool) (st : WSt) (hr : r ≠ [])
    (hk : resolveFn fns (parseValidNameKV r).1 = .builtin run) (hz : v.isZero = true) :
    fieldRules ext fns scope sn fname v descend (r :: rs) d st
      = fieldRules ext fns scope sn fname v descend rs d st := by
  rw [fieldRules_cons]; simp only [fieldStep, descAfter, isEmpty_false hr, hk, hz]; rfl

theorem fieldRules_custom (r mk : Bytes) (rs : List Bytes) (d : Bool) (st : WSt) (hr : r ≠ [])
    (hk : resolveFn fns (parseValidNameKV r).1 = .custom mk) (hz : v.isZero = false) :
    fieldRules ext fns scope sn fname v descend (r :: rs) d st
      = fieldRules ext fns scope sn fname v descend rs d (st.write (customClause mk r sn fname)) := by
  rw [fieldRules_cons]; simp only [fieldStep, descAfter, isEmpty_false hr, hk, hz]; rfl

theorem fieldRules_builtin (r : Bytes) (run) (rs : List Bytes) (d : Bool) (st : WSt) (hr : r ≠ [])
    (hk : resolveFn fns (parseValidNameKV r).1 = .builtin run) (hz : v.isZero = false) :
    fieldRules ext fns scope sn fname v descend (r :: rs) d st
      = (run ext r sn fname v >>= fun t =>
          fieldRules ext fns scope sn fname v descend rs d (st.write t)) := by
  rw [fieldRules_cons]; simp only [fieldStep, descAfter, isEmpty_false hr, hk, hz]
  cases run ext r sn fname v <;> rfl

end struct

/-! ### the field loop -/

/-- the rule list of a field: the rule set's rule for that name if non-empty, else the tag rule -/
def effectiveRule (cfg : StructCfg) (cus : RM) (name : Bytes) (tags : List (Bytes × Bytes)) : Bytes :=
  if !(rmGet cus name).isEmpty then rmGet cus name else tagGet tags cfg.tag

theorem fieldsLoop_cons (cfg : StructCfg) (sn : Bytes) (cus : RM) (name : Bytes) (ex tt : Bool)
    (tags : List (Bytes × Bytes)) (v : GoVal) (rest : Fields) (st : WSt) :
    fieldsLoop cfg sn cus (.cons name ex tt tags v rest) st
      = ((if !ex || tt || (effectiveRule cfg cus name tags).isEmpty then pure st
          else fieldRules cfg.ext cfg.fns sn sn name v
            (fun isValidTvKind skip cusMsg st => existTop cfg sn name v isValidTvKind skip cusMsg st)
            (validNamesSplit (effectiveRule cfg cus name tags)) false st) >>= fieldsLoop cfg sn cus rest) := by
  rw [fieldsLoop]; exact (apply_ite (· >>= fieldsLoop cfg sn cus rest) _ _ _).symm

/-- a field that is unexported, of type `time.Time`, or without rules is skipped -/
theorem fieldsLoop_skip (cfg : StructCfg) (sn : Bytes) (cus : RM) (name : Bytes) (ex tt : Bool)
    (tags : List (Bytes × Bytes)) (v : GoVal) (rest : Fields) (st : WSt)
    (h : ex = false ∨ tt = true ∨ (rmGet cus name = [] ∧ tagGet tags cfg.tag = [])) :
    fieldsLoop cfg sn cus (.cons name ex tt tags v rest) st = fieldsLoop cfg sn cus rest st := by
  rw [fieldsLoop_cons, if_pos]; rfl
  rcases h with h | h | ⟨h1, h2⟩ <;> simp [effectiveRule, *]

theorem fieldsLoop_rules (cfg : StructCfg) (sn : Bytes) (cus : RM) (name : Bytes)
    (tags : List (Bytes × Bytes)) (v : GoVal) (rest : Fields) (st : WSt) :
    fieldsLoop cfg sn cus (.cons name true false tags v rest) st
      = ((if (effectiveRule cfg cus name tags).isEmpty then pure st
          else fieldRules cfg.ext cfg.fns sn sn name v
            (fun isValidTvKind skip cusMsg st => existTop cfg sn name v isValidTvKind skip cusMsg st)
            (validNamesSplit (effectiveRule cfg cus name tags)) false st) >>= fun st1 => fieldsLoop cfg sn cus rest st1) :=
  fieldsLoop_cons cfg sn cus name true false tags v rest st

/-! ### function resolution (`getValidFn`): per-call table, then registered functions, then built-ins -/

theorem resolve_local (t : FnTables) (key mk : Bytes) (h : t.localFns.lookup key = some mk) :
    resolveFn t key = .custom mk := by simp [resolveFn, h]

theorem resolve_global (t : FnTables) (key mk : Bytes) (h1 : t.localFns.lookup key = none)
    (h2 : t.globalFns.lookup key = some mk) : resolveFn t key = .custom mk := by simp [resolveFn, h1, h2]

theorem resolve_builtin (t : FnTables) (key : Bytes) (h1 : t.localFns.lookup key = none)
    (h2 : t.globalFns.lookup key = none) :
    resolveFn t key = (match builtin key with
      | some .structural => .structural
      | some (.fn run) => .builtin run
      | none => .unknown) := by
  simp only [resolveFn, h1, h2]
  cases builtin key with
  | none => rfl
  | some x => cases x <;> rfl

/-- a built-in function is reached only through the global rule table -/
theorem resolveFn_builtin {t : FnTables} {key : Bytes} {run} (h : resolveFn t key = .builtin run) :
    builtin key = some (.fn run) := by
  unfold resolveFn at h
  split at h
  · cases h
  · split at h
    · cases h
    · split at h
      · cases h
      · rename_i hb; cases h; exact hb
      · cases h

/-- What holds of the twenty rule functions holds of every function of the rule table
(`validName2FnMap`); the cases follow the table line by line. -/
theorem builtin_ind {P : (Ext → Bytes → Bytes → Bytes → GoVal → M Bytes) → Prop}
    (to : ∀ h, P fun e v o f tv => ruleTo e v o f tv h)
    (bound : ∀ m h, P fun _ v o f tv => pure (ruleBound v o f tv m h))
    (eq : ∀ w, P fun e v o f tv => ruleEq e v o f tv w)
    (in_ : P fun e v o f tv => ruleIn e v o f tv)
    (phone : P fun _ v o f tv => rulePhone v o f tv)
    (email : P fun _ v o f tv => ruleEmail v o f tv)
    (idcard : P fun _ v o f tv => ruleIDCard v o f tv)
    (year : P ruleYear) (year2month : P ruleYear2Month) (date : P ruleDate) (datetime : P ruleDatetime)
    (int : P fun e v o f tv => ruleInt e v o f tv)
    (ints : P fun e v o f tv => ruleInts e v o f tv)
    (float : P fun e v o f tv => ruleFloat e v o f tv)
    (re : P ruleRe)
    (ip : ∀ w, P fun e v o f tv => ruleIp e v o f tv w)
    (unique : P fun e v o f tv => ruleUnique e v o f tv)
    (json : P ruleJson)
    (pfx : ∀ p, P fun _ v o f tv => rulePrefix v o f tv p)
    (fileDir : ∀ w, P fun e v o f tv => ruleFileDir e v o f tv w)
    {key : Bytes} {run} (h : builtin key = some (.fn run)) : P run := by
  obtain ⟨l₁, l₂, hl, -⟩ := List.lookup_eq_some_iff.1 h
  have hm : (key, Builtin.fn run) ∈ builtinTable := by rw [hl]; simp
  simp only [builtinTable, List.mem_cons, List.not_mem_nil, or_false, Prod.mk.injEq, reduceCtorEq, and_false,
    false_or, Builtin.fn.injEq] at hm
  rcases hm with ⟨-, rfl⟩ | ⟨-, rfl⟩ | ⟨-, rfl⟩ | ⟨-, rfl⟩ | ⟨-, rfl⟩ | ⟨-, rfl⟩ | ⟨-, rfl⟩ | ⟨-, rfl⟩ | ⟨-, rfl⟩ | ⟨-, rfl⟩
    | ⟨-, rfl⟩ | ⟨-, rfl⟩ | ⟨-, rfl⟩ | ⟨-, rfl⟩ | ⟨-, rfl⟩ | ⟨-, rfl⟩ | ⟨-, rfl⟩ | ⟨-, rfl⟩ | ⟨-, rfl⟩ | ⟨-, rfl⟩
    | ⟨-, rfl⟩ | ⟨-, rfl⟩ | ⟨-, rfl⟩ | ⟨-, rfl⟩ | ⟨-, rfl⟩ | ⟨-, rfl⟩ | ⟨-, rfl⟩ | ⟨-, rfl⟩ | ⟨-, rfl⟩ | ⟨-, rfl⟩
  · exact to _
  · exact to _
  · exact bound _ _
  · exact bound _ _
  · exact bound _ _
  · exact bound _ _
  · exact eq _
  · exact eq _
  · exact in_
  · exact in_
  · exact phone
  · exact email
  · exact idcard
  · exact year
  · exact year2month
  · exact date
  · exact datetime
  · exact int
  · exact ints
  · exact float
  · exact re
  · exact ip _
  · exact ip _
  · exact ip _
  · exact unique
  · exact json
  · exact pfx _
  · exact pfx _
  · exact fileDir _
  · exact fileDir _

section flat
variable (c : FlatCfg) (scope nameErr nameClause : Bytes) (v : GoVal)

/-- what ONE rule item does to the state under `Var` / `Map` / `Url` -/
def flatStep (r : Bytes) (st : WSt) : M WSt :=
  if r.isEmpty then pure st
  else match resolveFn c.fns (parseValidNameKV r).1 with
    | .unknown => pure (st.write (getJoinFieldErr [] nameErr (unknownFnMsg (parseValidNameKV r).1)))
    | .structural =>
      if (parseValidNameKV r).1 == requiredB then
        pure (if c.requiredViolated v then st.write (requiredClause [] nameClause (parseValidNameKV r).2.2) else st)
      else
        pure (if c.supportsGroups && ((parseValidNameKV r).1 == eitherB || (parseValidNameKV r).1 == bothEqB) then
          { st with members := st.members ++ [{ scope := scope, validName := r, objName := [], fieldName := nameErr, val := v }] }
        else st.write (getJoinFieldErr [] nameClause (b! "valid \"" ++ r ++ b! "\" is no support")))
    | .custom mk => pure (if c.isEmpty v then st else st.write (customClause mk r [] nameClause))
    | .builtin run => if c.isEmpty v then pure st else run c.ext r [] nameClause v >>= fun t => pure (st.write t)

theorem flatRules_nil (st : WSt) : flatRules c scope nameErr nameClause v [] st = pure st := by rw [flatRules]

/-- the rule loop of `Var` / `Map` / `Url` is the fold of `flatStep` -/
theorem flatRules_cons (r : Bytes) (rs : List Bytes) (st : WSt) :
    flatRules c scope nameErr nameClause v (r :: rs) st
      = (flatStep c scope nameErr nameClause v r st >>= flatRules c scope nameErr nameClause v rs) := by
  rw [flatRules]; unfold flatStep
  cases hr : r.isEmpty
  case true => rfl
  rcases parseValidNameKV r with ⟨key, a, m⟩
  simp only [Bool.false_eq_true, if_false]
  cases resolveFn c.fns key with
  | unknown => rfl
  | structural =>
    cases key == requiredB
    case true => cases c.requiredViolated v <;> rfl
    cases c.supportsGroups && (key == eitherB || key == bothEqB) <;> rfl
  | custom mk => cases c.isEmpty v <;> rfl
  | builtin run =>
    cases c.isEmpty v
    case true => rfl
    simp only [Bool.false_eq_true, if_false]
    cases run c.ext r [] nameClause v <;> rfl

theorem flatRules_empty (rs : List Bytes) (st : WSt) :
    flatRules c scope nameErr nameClause v ([] :: rs) st = flatRules c scope nameErr nameClause v rs st := by
  rw [flatRules_cons]; rfl

theorem flatRules_unknown (r : Bytes) (rs : List Bytes) (st : WSt) (hr : r ≠ [])
    (hk : resolveFn c.fns (parseValidNameKV r).1 = .unknown) :
    flatRules c scope nameErr nameClause v (r :: rs) st
      = flatRules c scope nameErr nameClause v rs
          (st.write (getJoinFieldErr [] nameErr (unknownFnMsg (parseValidNameKV r).1))) := by
  rw [flatRules_cons]; simp only [flatStep, isEmpty_false hr, hk]; rfl

theorem flatRules_required (r : Bytes) (rs : List Bytes) (st : WSt) (hr : r ≠ [])
    (hk : resolveFn c.fns (parseValidNameKV r).1 = .structural) (hreq : (parseValidNameKV r).1 = requiredB) :
    flatRules c scope nameErr nameClause v (r :: rs) st
      = flatRules c scope nameErr nameClause v rs
          (if c.requiredViolated v then st.write (requiredClause [] nameClause (parseValidNameKV r).2.2) else st) := by
  rw [flatRules_cons]; simp only [flatStep, isEmpty_false hr, hk, beq_iff_eq.mpr hreq]; rfl

/-- a structural rule other than `required`: `either` / `botheq` register the value (Map, Url); anything
else (`exist`, or groups under `Var`) is "no support": one clause -/
theorem flatRules_structural_other (r : Bytes) (rs : List Bytes) (st : WSt) (hr : r ≠ [])
    (hk : resolveFn c.fns (parseValidNameKV r).1 = .structural) (hreq : (parseValidNameKV r).1 ≠ requiredB) :
    flatRules c scope nameErr nameClause v (r :: rs) st
      = flatRules c scope nameErr nameClause v rs
          (if c.supportsGroups && ((parseValidNameKV r).1 == eitherB || (parseValidNameKV r).1 == bothEqB) then
             { st with members := st.members ++ [{ scope := scope, validName := r, objName := [], fieldName := nameErr, val := v }] }
           else st.write (getJoinFieldErr [] nameClause (b! "valid \"" ++ r ++ b! "\" is no support"))) := by
  rw [flatRules_cons]; simp only [flatStep, isEmpty_false hr, hk, beq_eq_false_iff_ne.mpr hreq]; rfl

theorem flatRules_custom_zero (r mk : Bytes) (rs : List Bytes) (st : WSt) (hr : r ≠ [])
    (hk : resolveFn c.fns (parseValidNameKV r).1 = .custom mk) (hz : c.isEmpty v = true) :
    flatRules c scope nameErr nameClause v (r :: rs) st = flatRules c scope nameErr nameClause v rs st := by
  rw [flatRules_cons]; simp only [flatStep, isEmpty_false hr, hk, hz]; rfl

theorem flatRules_builtin_zero (r : Bytes) (run) (rs : List Bytes) (st : WSt) (hr : r ≠ [])
    (hk : resolveFn c.fns (parseValidNameKV r).1 = .builtin run) (hz : c.isEmpty v = true) :
    flatRules c scope nameErr nameClause v (r :: rs) st = flatRules c scope nameErr nameClause v rs st := by
  rw [flatRules_cons]; simp only [flatStep, isEmpty_false hr, hk, hz]; rfl

theorem flatRules_custom (r mk : Bytes) (rs : List Bytes) (st : WSt) (hr : r ≠ [])
    (hk : resolveFn c.fns (parseValidNameKV r).1 = .custom mk) (hz : c.isEmpty v = false) :
    flatRules c scope nameErr nameClause v (r :: rs) st
      = flatRules c scope nameErr nameClause v rs (st.write (customClause mk r [] nameClause)) := by
  rw [flatRules_cons]; simp only [flatStep, isEmpty_false hr, hk, hz]; rfl

theorem flatRules_builtin (r : Bytes) (run) (rs : List Bytes) (st : WSt) (hr : r ≠ [])
    (hk : resolveFn c.fns (parseValidNameKV r).1 = .builtin run) (hz : c.isEmpty v = false) :
    flatRules c scope nameErr nameClause v (r :: rs) st
      = (run c.ext r [] nameClause v >>= fun t => flatRules c scope nameErr nameClause v rs (st.write t)) := by
  rw [flatRules_cons]; simp only [flatStep, isEmpty_false hr, hk, hz]
  cases run c.ext r [] nameClause v <;> rfl

end flat
end PGV.Proofs.Walker
