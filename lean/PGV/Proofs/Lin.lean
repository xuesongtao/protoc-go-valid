/-!
# Coarse-lock linearizability

An object whose every operation runs `step : σ → Op → σ × Res` atomically at some point between its
invocation and its response (what one mutex held for the whole method body provides).  Threads
(any number) are `idle`, `pending` (invoked, not yet in the critical section) or `done` (left it,
not yet returned).  A ghost log records the order of the critical sections.  `Inv` holds in every
reachable configuration: the log is a legal sequential run ending in the shared state, every
returned operation is in it with its result, and real-time order is respected.
-/
namespace PGV.Proofs.Lin

variable {σ Op Res : Type}

inductive TSt (Op Res : Type) where
  | idle
  | pending (id : Nat) (op : Op)
  | done (id : Nat) (op : Op) (r : Res)

/-- ghost-instrumented configuration -/
structure Cfg (σ Op Res : Type) where
  shared : σ
  th : Nat → TSt Op Res
  nextId : Nat
  lin : List (Nat × Op × Res)        -- linearization order so far (crit order), oldest first
  returned : List Nat                 -- ids that have returned
  rt : List (Nat × Nat)               -- real-time pairs (a,b): a returned before b was invoked

def upd {α} (f : Nat → α) (t : Nat) (x : α) : Nat → α := fun u => if u = t then x else f u

inductive Step (step : σ → Op → σ × Res) : Cfg σ Op Res → Cfg σ Op Res → Prop where
  | inv (c) (t : Nat) (op : Op) (h : c.th t = .idle) :
      Step step c { c with th := upd c.th t (.pending c.nextId op), nextId := c.nextId + 1,
                           rt := c.rt ++ c.returned.map (fun a => (a, c.nextId)) }
  | crit (c) (t : Nat) (id : Nat) (op : Op) (h : c.th t = .pending id op) :
      Step step c { c with shared := (step c.shared op).1,
                           th := upd c.th t (.done id op (step c.shared op).2),
                           lin := c.lin ++ [(id, op, (step c.shared op).2)] }
  | ret (c) (t : Nat) (id : Nat) (op : Op) (r : Res) (h : c.th t = .done id op r) :
      Step step c { c with th := upd c.th t .idle, returned := c.returned ++ [id] }

inductive Reach (step : σ → Op → σ × Res) (init : σ) : Cfg σ Op Res → Prop where
  | init : Reach step init ⟨init, fun _ => .idle, 0, [], [], []⟩
  | step {c c'} : Reach step init c → Step step c c' → Reach step init c'

/-- sequential run of the spec over a list of (id, op, res): final state if every recorded result is the spec's -/
def seqOk (step : σ → Op → σ × Res) [DecidableEq Res] : σ → List (Nat × Op × Res) → Option σ
  | s, [] => some s
  | s, (_, op, r) :: rest => if (step s op).2 = r then seqOk step (step s op).1 rest else none

theorem seqOk_append (step : σ → Op → σ × Res) [DecidableEq Res] (s : σ) (l l' : List (Nat × Op × Res)) :
    seqOk step s (l ++ l') = (seqOk step s l).bind (fun s' => seqOk step s' l') := by
  induction l generalizing s with
  | nil => rfl
  | cons a l ih =>
    simp only [List.cons_append, seqOk]
    split
    · exact ih _
    · rfl

/-- a thread state read after an update is the new one (at `t`) or an old one (elsewhere) -/
theorem upd_eq {α} {f : Nat → α} {t u : Nat} {x y : α} (h : upd f t x u = y) :
    u = t ∧ x = y ∨ u ≠ t ∧ f u = y := by
  unfold upd at h
  split at h
  · exact .inl ⟨‹_›, h⟩
  · exact .inr ⟨‹_›, h⟩

def idx (l : List (Nat × Op × Res)) (id : Nat) : Option Nat := l.findIdx? (·.1 == id)

structure Inv (step : σ → Op → σ × Res) [DecidableEq Res] (init : σ) (c : Cfg σ Op Res) : Prop where
  legal : seqOk step init c.lin = some c.shared
  ret_lin : ∀ a ∈ c.returned, ∃ e ∈ c.lin, e.1 = a
  lin_lt : ∀ e ∈ c.lin, e.1 < c.nextId
  /-- real-time order respected: if a returned before b was invoked and b is linearized, a precedes b -/
  rt_ok : ∀ a b, (a, b) ∈ c.rt → ∀ l1 eb l2, c.lin = l1 ++ eb :: l2 → eb.1 = b → ∃ ea ∈ l1, ea.1 = a
  rt_lin : ∀ a b, (a, b) ∈ c.rt → ∃ e ∈ c.lin, e.1 = a
  pend_fresh : ∀ t id op, c.th t = .pending id op → id < c.nextId ∧ ∀ e ∈ c.lin, e.1 ≠ id
  ids_nodup : (c.lin.map (·.1)).Nodup
  done_lin : ∀ t id op r, c.th t = .done id op r → (id, op, r) ∈ c.lin
  pend_unique : ∀ t u id op op', c.th t = .pending id op → c.th u = .pending id op' → t = u

theorem inv_reach (step : σ → Op → σ × Res) [DecidableEq Res] (init : σ) (c : Cfg σ Op Res)
    (h : Reach step init c) : Inv step init c := by
  induction h with
  | init =>
    exact { legal := rfl, ret_lin := nofun, lin_lt := nofun, rt_ok := nofun, rt_lin := nofun,
            pend_fresh := nofun, ids_nodup := List.nodup_nil, done_lin := nofun, pend_unique := nofun }
  | @step c c' hr hs ih =>
    cases hs with
    | inv t op hidle =>
      refine { legal := ih.legal, ret_lin := ih.ret_lin, ids_nodup := ih.ids_nodup,
               lin_lt := fun e he => Nat.lt_succ_of_lt (ih.lin_lt e he),
               rt_ok := ?rt_ok, rt_lin := ?rt_lin, pend_fresh := ?pend_fresh,
               done_lin := ?done_lin, pend_unique := ?pend_unique }
      case rt_ok =>
        intro a b hab l1 eb l2 hl hb
        rcases List.mem_append.1 hab with hab | hab
        · exact ih.rt_ok a b hab l1 eb l2 hl hb
        · -- `b` is the id just issued, and nothing in `lin` carries it yet
          obtain ⟨x, -, ⟨⟩⟩ := List.mem_map.1 hab
          exact absurd hb (Nat.ne_of_lt (ih.lin_lt eb (hl ▸ List.mem_append_right _ List.mem_cons_self)))
      case rt_lin =>
        intro a b hab
        rcases List.mem_append.1 hab with hab | hab
        · exact ih.rt_lin a b hab
        · obtain ⟨x, hx, ⟨⟩⟩ := List.mem_map.1 hab
          exact ih.ret_lin _ hx
      case pend_fresh =>
        intro u id op' hu
        rcases upd_eq hu with ⟨-, ⟨⟩⟩ | ⟨-, hu⟩
        · exact ⟨Nat.lt_succ_self _, fun e he => Nat.ne_of_lt (ih.lin_lt e he)⟩
        · exact ⟨Nat.lt_succ_of_lt (ih.pend_fresh u id op' hu).1, (ih.pend_fresh u id op' hu).2⟩
      case done_lin =>
        intro u id' op' r hu
        rcases upd_eq hu with ⟨-, ⟨⟩⟩ | ⟨-, hu⟩
        exact ih.done_lin u id' op' r hu
      case pend_unique =>
        intro a b id' o1 o2 ha hb
        rcases upd_eq ha with ⟨rfl, h1⟩ | ⟨-, h1⟩ <;> rcases upd_eq hb with ⟨rfl, h2⟩ | ⟨-, h2⟩
        · rfl
        · cases h1; exact absurd (ih.pend_fresh b _ o2 h2).1 (Nat.lt_irrefl _)
        · cases h2; exact absurd (ih.pend_fresh a _ o1 h1).1 (Nat.lt_irrefl _)
        · exact ih.pend_unique a b id' o1 o2 h1 h2
    | crit t id op hp =>
      obtain ⟨hlt, hfresh⟩ := ih.pend_fresh t id op hp
      -- the thread leaves `pending`: whoever is pending afterwards was pending before, elsewhere
      have pend : ∀ {u id' op'}, upd c.th t (.done id op (step c.shared op).2) u = .pending id' op' →
          u ≠ t ∧ c.th u = .pending id' op' := fun hu => by
        rcases upd_eq hu with ⟨-, ⟨⟩⟩ | h
        exact h
      refine { legal := ?legal, ret_lin := ?ret_lin, lin_lt := ?lin_lt, rt_ok := ?rt_ok,
               rt_lin := ?rt_lin, pend_fresh := ?pend_fresh, ids_nodup := ?ids_nodup,
               done_lin := ?done_lin,
               pend_unique := fun a b id' o1 o2 ha hb => ih.pend_unique a b id' o1 o2 (pend ha).2 (pend hb).2 }
      case legal =>
        show seqOk step init (c.lin ++ [_]) = _
        rw [seqOk_append, ih.legal]
        exact if_pos rfl
      case ret_lin =>
        intro a ha; obtain ⟨e, he, hea⟩ := ih.ret_lin a ha
        exact ⟨e, List.mem_append_left _ he, hea⟩
      case lin_lt =>
        intro e he
        rcases List.mem_append.1 he with he | he
        · exact ih.lin_lt e he
        · cases List.mem_singleton.1 he; exact hlt
      case rt_ok =>
        intro a b hab l1 eb l2 hl hb
        rcases List.eq_nil_or_concat l2 with rfl | ⟨l2', x, rfl⟩
        · obtain ⟨rfl, -⟩ := List.append_inj' (t₁ := [_]) (t₂ := [eb]) hl rfl
          exact ih.rt_lin a b hab
        · have hl' : c.lin ++ [(id, op, (step c.shared op).2)] = (l1 ++ eb :: l2') ++ [x] := by
            simpa [List.concat_eq_append, List.append_assoc] using hl
          exact ih.rt_ok a b hab l1 eb l2' (List.append_inj' hl' rfl).1 hb
      case rt_lin =>
        intro a b hab; obtain ⟨e, he, hea⟩ := ih.rt_lin a b hab
        exact ⟨e, List.mem_append_left _ he, hea⟩
      case pend_fresh =>
        intro u id' op' hu
        obtain ⟨hne, hu⟩ := pend hu
        refine ⟨(ih.pend_fresh u id' op' hu).1, fun e he => ?_⟩
        rcases List.mem_append.1 he with he | he
        · exact (ih.pend_fresh u id' op' hu).2 e he
        · cases List.mem_singleton.1 he
          exact fun heq => hne (ih.pend_unique u t id op' op ((show id = id' from heq) ▸ hu) hp)
      case ids_nodup =>
        rw [List.map_append, List.nodup_append]
        refine ⟨ih.ids_nodup, List.nodup_cons.2 ⟨nofun, List.nodup_nil⟩, fun x hx y hy => ?_⟩
        obtain ⟨e, he, rfl⟩ := List.mem_map.1 hx
        cases List.mem_singleton.1 hy
        exact hfresh e he
      case done_lin =>
        intro u id' op' r hu
        rcases upd_eq hu with ⟨-, ⟨⟩⟩ | ⟨-, hu⟩
        · exact List.mem_append_right _ List.mem_cons_self
        · exact List.mem_append_left _ (ih.done_lin u id' op' r hu)
    | ret t id op r hd =>
      have old : ∀ {u x}, x ≠ .idle → upd c.th t .idle u = x → c.th u = x := fun hx hu => by
        rcases upd_eq hu with ⟨-, rfl⟩ | ⟨-, hu⟩
        · exact absurd rfl hx
        · exact hu
      refine { legal := ih.legal, ret_lin := ?ret_lin, lin_lt := ih.lin_lt, rt_ok := ih.rt_ok,
               rt_lin := ih.rt_lin, ids_nodup := ih.ids_nodup,
               pend_fresh := fun u id' op' hu => ih.pend_fresh u id' op' (old nofun hu),
               done_lin := fun u id' op' r' hu => ih.done_lin u id' op' r' (old nofun hu),
               pend_unique := fun a b id' o1 o2 ha hb =>
                 ih.pend_unique a b id' o1 o2 (old nofun ha) (old nofun hb) }
      case ret_lin =>
        intro a ha
        rcases List.mem_append.1 ha with ha | ha
        · exact ih.ret_lin a ha
        · cases List.mem_singleton.1 ha
          exact ⟨_, ih.done_lin t _ op r hd, rfl⟩
end PGV.Proofs.Lin
