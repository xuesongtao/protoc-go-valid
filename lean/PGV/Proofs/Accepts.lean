import PGV.Spec.Lang
import PGV.Proofs.RuleText
import PGV.Proofs.EmailEq
import PGV.Proofs.Size
import PGV.Proofs.Total

/-! The model's rule functions decide, on strings, what `Spec.Lang.accepts` says — for rule texts of
the documented shape `key[=arg][|message]`. -/

namespace PGV.Proofs.Accepts
open PGV PGV.Model PGV.Spec PGV.Spec.Lang PGV.Proofs.RuleText PGV.Proofs.EmailEq

/-- shape conditions: the key has no `=` / `|`, the argument no `|` -/
structure Shape (key arg : Bytes) : Prop where
  keyEq : EQ ∉ key
  keyBar : BAR ∉ key
  argBar : BAR ∉ arg

theorem parse_mkText (key arg msg : Bytes) (h : Shape key arg) :
    parseValidNameKV (mkText key arg msg) = (key, arg, if msg.isEmpty then [] else labelMsg msg) := by
  unfold mkText
  cases arg with
  | nil =>
    cases msg with
    | nil => simpa using parse_key key h.keyEq h.keyBar
    | cons m ms => simpa using parse_key_msg key (m :: ms) h.keyEq h.keyBar (by simp)
  | cons a as =>
    cases msg with
    | nil => simpa using parse_key_val key (a :: as) h.keyEq h.keyBar h.argBar
    | cons m ms =>
      have := parse_key_val_msg key (a :: as) (m :: ms) h.keyEq h.keyBar h.argBar (by simp)
      simpa using this

theorem bne_of_not_mem {c : UInt8} {x : Bytes} (h : c ∉ x) : ∀ a ∈ x, (a != c) = true :=
  fun _ ha => bne_iff_ne.mpr fun e => h (e ▸ ha)

theorem upTo_split (c : UInt8) (x y : Bytes) (h : c ∉ x) : upTo c (x ++ c :: y) = x ∧ behind c (x ++ c :: y) = y := by
  simp [upTo, behind, List.takeWhile_append_of_pos (bne_of_not_mem h), List.dropWhile_append_of_pos (bne_of_not_mem h)]

theorem upTo_not_mem (c : UInt8) (x : Bytes) (h : c ∉ x) : upTo c x = x ∧ behind c x = [] := by
  have t := List.takeWhile_append_of_pos (l₂ := []) (bne_of_not_mem h)
  have d := List.dropWhile_append_of_pos (l₂ := []) (bne_of_not_mem h)
  simp only [List.append_nil, List.takeWhile_nil, List.dropWhile_nil] at t d
  simp [upTo, behind, t, d]

theorem ruleParts_mkText (key arg msg : Bytes) (h : Shape key arg) :
    ruleParts (mkText key arg msg) = (key, arg) := by
  have hbe : BAR ≠ EQ := by decide
  have hx : BAR ∉ key ++ (if arg.isEmpty then [] else EQ :: arg) := by
    intro hm
    rcases List.mem_append.mp hm with h1 | h1
    · exact h.keyBar h1
    · cases arg with
      | nil => simp at h1
      | cons a as =>
        simp only [List.isEmpty_cons, Bool.false_eq_true, if_false] at h1
        rcases List.mem_cons.mp h1 with h2 | h2
        · exact hbe h2
        · exact h.argBar h2
  have hbody : upTo BAR (mkText key arg msg) = key ++ (if arg.isEmpty then [] else EQ :: arg) := by
    unfold mkText
    cases msg with
    | nil => simpa using (upTo_not_mem BAR _ hx).1
    | cons m ms => simpa using (upTo_split BAR _ (m :: ms) hx).1
  unfold ruleParts
  simp only [hbody]
  cases arg with
  | nil =>
    simp only [List.isEmpty_nil, if_true, List.append_nil]
    obtain ⟨e1, e2⟩ := upTo_not_mem EQ key h.keyEq
    exact Prod.ext e1 e2
  | cons a as =>
    simp only [List.isEmpty_cons, Bool.false_eq_true, if_false]
    obtain ⟨e1, e2⟩ := upTo_split EQ key (a :: as) h.keyEq
    exact Prod.ext e1 e2


/-- the rule function wrote a clause exactly when the spec's verdict is "outside the language" -/
def Verdict (res : M Bytes) (b : Bool) : Prop := ∃ out, res = .ok out ∧ (out ≠ [] ↔ b = false)

theorem Verdict.nil_iff {res : M Bytes} {b : Bool} (h : Verdict res b) :
    ∃ out, res = .ok out ∧ (out = [] ↔ b = true) := by
  obtain ⟨out, ho, hiff⟩ := h
  exact ⟨out, ho, by cases b <;> simp_all⟩

theorem verdict_ite (c b : Bool) (clause : Bytes) (hne : clause ≠ []) (h : c = b) :
    Verdict (if c = true then pure [] else pure clause) b := by
  subst h
  cases c with
  | true => exact ⟨[], rfl, by simp⟩
  | false => exact ⟨clause, rfl, by simp [hne]⟩

/-- `strRule` on a string is its check -/
theorem strRule_verdict (text obj field s dflt : Bytes) (ok : Bytes → M Bool) (b : Bool) (h : ok s = pure b) :
    Verdict (strRule text obj field (.str s) ok dflt) b := by
  simp only [strRule, checkFieldIsStr, h, bind, Except.bind, pure, Except.pure]
  exact verdict_ite b b _ (PGV.Proofs.Size.violClause_ne_nil _ _ _ _ _) rfl

theorem allDistinct_eq_distinct (l : List Bytes) : allDistinct l = distinct l := by
  induction l with
  | nil => rfl
  | cons x xs ih => simp [allDistinct, distinct, ih]

theorem split_eq_pieces (x : Bytes) (hne : ∀ p ∈ pieces 47 false x, p ≠ []) :
    validNamesSplit x 47 = pieces 47 false x := by
  have hx : x ≠ [] := by rintro rfl; exact hne [] (by simp [pieces]) rfl
  rw [validNamesSplit_eq x 47 (by decide) hx, dropLastEmpty_of_last_ne _ hne, ite_self]

/-- what both sides compute once the brackets are found -/
theorem in_core (arg : Bytes) (l r : Nat)
    (hl : Bytes.indexByte? 40 arg = some l) (hr : Bytes.lastIndexByte? 41 arg = some r) (hlr : ¬ r < l) :
    sliceM arg (l + 1) r = pure ((arg.take r).drop (l + 1)) := by
  have hl' := PGV.Proofs.Total.indexByte?_spec 40 arg l hl
  have hr' := PGV.Proofs.Total.lastIndexByte?_spec 41 arg r hr
  have hne : l ≠ r := by
    intro e; subst e
    have h1 := hl'.2; have h2 := hr'.2
    rw [h1] at h2; simp at h2
  unfold sliceM Bytes.slice?
  have : l + 1 ≤ r ∧ r ≤ arg.length := by omega
  simp [this]

/-! ### `strings.Split` with a counter of bytes still to skip = the direct recursion -/

theorem splitOnSep_ne_nil (sep : Bytes) (fuel : Nat) (x : Bytes) : splitOnSep sep fuel x ≠ [] := by
  cases fuel with
  | zero => simp [splitOnSep]
  | succ f =>
    cases x with
    | nil => simp [splitOnSep]
    | cons c t =>
      rw [splitOnSep]
      split
      · simp
      · split <;> simp

theorem go_skip (sep : Bytes) (x cur : Bytes) (k : Nat) :
    splitOn.go sep x cur k = splitOn.go sep (x.drop k) cur 0 := by
  induction x generalizing k with
  | nil => cases k <;> simp [splitOn.go]
  | cons c t ih =>
    cases k with
    | zero => rfl
    | succ k => rw [splitOn.go, ih k]; rfl

theorem go_eq (sep : Bytes) : ∀ (fuel : Nat) (x cur : Bytes), x.length ≤ fuel →
    splitOn.go sep x cur 0 = prependHead cur.reverse (splitOnSep sep fuel x) := by
  intro fuel
  induction fuel with
  | zero =>
    intro x cur hl
    have : x = [] := by cases x <;> simp_all
    subst this
    simp [splitOn.go, splitOnSep, prependHead]
  | succ f ih =>
    intro x cur hl
    cases x with
    | nil => simp [splitOn.go, splitOnSep, prependHead]
    | cons c t =>
      rw [splitOn.go, splitOnSep]
      by_cases hp : (!sep.isEmpty && sep.isPrefixOf (c :: t)) = true
      · simp only [hp, if_true]
        rw [go_skip, ih _ [] (by simp only [List.length_drop, List.length_cons] at hl ⊢; omega)]
        have hlen : 1 ≤ sep.length := by
          cases sep with
          | nil => simp at hp
          | cons _ _ => simp
        have hd : (c :: t).drop sep.length = t.drop (sep.length - 1) := by
          cases hs : sep.length with
          | zero => omega
          | succ n => simp
        rw [hd]
        have e : ([] : Bytes).reverse = [] := rfl
        rw [e, prependHead_nil _ (splitOnSep_ne_nil sep f _)]
        simp [prependHead]
      · have hp' : (!sep.isEmpty && sep.isPrefixOf (c :: t)) = false := by
          cases hh : (!sep.isEmpty && sep.isPrefixOf (c :: t)) with
          | false => rfl
          | true => exact absurd hh hp
        simp only [hp', Bool.false_eq_true, if_false]
        rw [ih t (c :: cur) (by simp only [List.length_cons] at hl; omega)]
        cases hs : splitOnSep sep f t with
        | nil => exact absurd hs (splitOnSep_ne_nil sep f t)
        | cons p ps => simp [prependHead]

theorem splitOn_eq (sep x : Bytes) : splitOn sep x = splitOnSep sep (x.length + 1) x := by
  unfold splitOn
  rw [go_eq sep (x.length + 1) x [] (by omega)]
  simp [prependHead_nil _ (splitOnSep_ne_nil sep _ x)]

theorem toStrIface_scalar (ext : Ext) (tv : GoVal) (t : Bytes) (h : tv.toStr = some t) : toStrIface ext tv = pure t := by
  cases tv <;> simp_all [GoVal.toStr, toStrIface, toStrDyn]

theorem mapM_toStr (ext : Ext) (l : List GoVal) (ts : List Bytes) (h : l.mapM GoVal.toStr = some ts) :
    l.mapM (toStrIface ext) = pure ts := by
  induction l generalizing ts with
  | nil => simp at h; subst h; rfl
  | cons a r ih =>
    rw [List.mapM_cons] at h ⊢
    cases ha : a.toStr with
    | none => simp [ha] at h
    | some t =>
      cases hr : r.mapM GoVal.toStr with
      | none => simp [ha, hr] at h
      | some rest =>
        simp [ha, hr] at h
        subst h
        rw [toStrIface_scalar ext a t ha, ih rest hr]
        rfl


/-! ### what each rule function decides on a string, for any rule text -/

section
variable (ext : Ext) (text obj field s : Bytes)

theorem phone_verdict : Verdict (rulePhone text obj field (.str s)) (phone s) :=
  strRule_verdict _ _ _ _ _ _ _ (congrArg pure (PGV.Proofs.LangEq.phone_eq s))

theorem email_verdict : Verdict (ruleEmail text obj field (.str s)) (email s) :=
  strRule_verdict _ _ _ _ _ _ _ (congrArg pure (email_eq s))

theorem idcard_verdict : Verdict (ruleIDCard text obj field (.str s)) (idcard s) :=
  strRule_verdict _ _ _ _ _ _ _ (congrArg pure (PGV.Proofs.LangEq.idcard_eq s))

theorem int_verdict : Verdict (ruleInt ext text obj field (.str s)) (Spec.Lang.int s) := by
  simp only [ruleInt, pure, Except.pure]
  exact verdict_ite _ _ _ (PGV.Proofs.Size.violClause_ne_nil _ _ _ _ _) (PGV.Proofs.LangEq.int_eq s)

theorem float_verdict : Verdict (ruleFloat ext text obj field (.str s)) (Spec.Lang.float s) := by
  simp only [ruleFloat, pure, Except.pure]
  exact verdict_ite _ _ _ (PGV.Proofs.Size.violClause_ne_nil _ _ _ _ _) (PGV.Proofs.LangEq.float_eq s)

theorem unique_verdict : Verdict (ruleUnique ext text obj field (.str s)) (allDistinct (Bytes.splitByte COMMA s)) := by
  simp only [ruleUnique, pure, Except.pure]
  exact verdict_ite _ _ _ (PGV.Proofs.Size.violClause_ne_nil _ _ _ _ _) rfl

theorem prefix_verdict (key arg cus : Bytes) (hp : parseValidNameKV text = (key, arg, cus)) (isPre : Bool) :
    Verdict (rulePrefix text obj field (.str s) isPre) (if isPre then arg.isPrefixOf s else arg.isSuffixOf s) := by
  simp only [rulePrefix, hp]
  exact strRule_verdict _ _ _ _ _ _ _ (by cases isPre <;> rfl)

theorem ints_verdict (key arg cus : Bytes) (hp : parseValidNameKV text = (key, arg, cus)) :
    Verdict (ruleInts ext text obj field (.str s))
      ((splitOnSep (if (unq arg).isEmpty then [44] else unq arg) (s.length + 1) s).all Spec.Lang.int) := by
  simp only [ruleInts, hp, pure, Except.pure]
  refine verdict_ite _ _ _ (PGV.Proofs.Size.violClause_ne_nil _ _ _ _ _) ?_
  rw [splitOn_eq, funext PGV.Proofs.LangEq.int_eq]
  rfl

/-- once the options are read, `ruleIn` tests the value's text against them -/
theorem ruleIn_options (key arg cus : Bytes) (hp : parseValidNameKV text = (key, arg, cus)) (os : List Bytes)
    (ho : options arg = some os) (tv : GoVal) :
    ∃ clause : Bytes → Bytes, (∀ t, clause t ≠ []) ∧
      ruleIn ext text obj field tv =
        match tv with
        | .str s =>
          if os.any (fun o => if key == b! "include" then Bytes.containsSub s o else s == o) then pure [] else pure (clause s)
        | v =>
          if key == b! "include" then pure (getJoinFieldErr obj field includeErr)
          else toStrIface ext v >>= fun t => if os.any (fun o => t == o) then pure [] else pure (clause t) := by
  unfold options at ho
  cases hl : Bytes.indexByte? 40 arg with
  | none => simp [hl] at ho
  | some l =>
    cases hr : Bytes.lastIndexByte? 41 arg with
    | none => simp [hl, hr] at ho
    | some r =>
      simp only [hl, hr] at ho
      by_cases hlt : r < l
      · simp [hlt] at ho
      · simp only [hlt, if_false] at ho
        by_cases hemp : (pieces 47 false ((arg.take r).drop (l + 1))).any (·.isEmpty) = true
        · simp [hemp] at ho
        · simp only [hemp, Bool.false_eq_true, if_false, Option.some.injEq] at ho
          have hne : ∀ p ∈ pieces 47 false ((arg.take r).drop (l + 1)), p ≠ [] := by
            intro p hp' e; subst e
            exact hemp (List.any_eq_true.mpr ⟨[], hp', rfl⟩)
          refine ⟨fun t => violClause obj field t cus [b! "it should " ++ key ++ b! " (" ++ (arg.take r).drop (l + 1) ++ b! ")"],
            fun t => PGV.Proofs.Size.violClause_ne_nil _ _ _ _ _, ?_⟩
          unfold ruleIn
          rw [hp]
          simp only [lastIndexByte, hl, hr, hlt, if_false, in_core arg l r hl hr hlt, bind, Except.bind, pure,
            Except.pure, split_eq_pieces _ hne, ho]
          by_cases hinc : (key == b! "include") = true
          · simp only [hinc, if_true]; cases tv <;> rfl
          · simp only [hinc]; cases tv <;> rfl

theorem include_verdict (arg cus : Bytes) (hp : parseValidNameKV text = (b! "include", arg, cus)) (os : List Bytes)
    (ho : options arg = some os) :
    Verdict (ruleIn ext text obj field (.str s)) (os.any fun o => Bytes.containsSub s o) := by
  obtain ⟨clause, hne, e⟩ := ruleIn_options ext text obj field _ arg cus hp os ho (.str s)
  rw [e]
  exact verdict_ite _ _ _ (hne s) rfl

/-- `in` compares a string by itself, a number or a bool by its canonical rendering (`ToStr`:
decimal integers, shortest round-trip floats, `true` / `false`) -/
theorem in_verdict (key arg cus : Bytes) (hp : parseValidNameKV text = (key, arg, cus))
    (hk : (key == b! "include") = false) (os : List Bytes) (ho : options arg = some os)
    (tv : GoVal) (t : Bytes) (hts : tv.toStr = some t) :
    Verdict (ruleIn ext text obj field tv) (os.contains t) := by
  obtain ⟨clause, hne, e⟩ := ruleIn_options ext text obj field key arg cus hp os ho tv
  rw [e]
  simp only [hk, Bool.false_eq_true, if_false]
  split
  · cases hts
    exact verdict_ite _ _ _ (hne _) List.contains_eq_any_beq.symm
  · simp only [toStrIface_scalar ext tv t hts, bind, Except.bind, pure, Except.pure]
    exact verdict_ite _ _ _ (hne _) List.contains_eq_any_beq.symm

/-- `unique` on a slice or array of scalars: violated exactly when two renderings coincide -/
theorem unique_verdict_slice (tstr elemT : Bytes) (isNil : Bool) (es : GoVals) (ts : List Bytes)
    (h : es.toList.mapM GoVal.toStr = some ts) :
    Verdict (ruleUnique ext text obj field (.slice tstr elemT isNil es)) (distinct ts) := by
  simp only [ruleUnique, mapM_toStr ext _ ts h, bind, Except.bind, pure, Except.pure]
  exact verdict_ite _ _ _ (PGV.Proofs.Size.violClause_ne_nil _ _ _ _ _) (allDistinct_eq_distinct ts)

/-- `ints` on a slice or array of scalars: violated exactly when some rendering is not all digits -/
theorem ints_verdict_slice (tstr elemT : Bytes) (isNil : Bool) (es : GoVals) (ts : List Bytes)
    (h : es.toList.mapM GoVal.toStr = some ts) :
    Verdict (ruleInts ext text obj field (.slice tstr elemT isNil es)) (ts.all Spec.Lang.int) := by
  simp only [ruleInts, mapM_toStr ext _ ts h, bind, Except.bind, pure, Except.pure]
  exact verdict_ite _ _ _ (PGV.Proofs.Size.violClause_ne_nil _ _ _ _ _) (by rw [funext PGV.Proofs.LangEq.int_eq])

end
end PGV.Proofs.Accepts
