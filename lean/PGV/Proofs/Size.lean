import PGV.Spec.Size

/-! Lemmas for C01 (size / comparison rules): every comparison the model makes between a value and
an integer bound is a test on `Spec.Size.cmp` of the value's measure. -/

namespace PGV.Proofs.Size
open PGV PGV.Model PGV.Spec.Size

theorem cmpDyadic_swap (m1 e1 m2 e2 : Int) : cmpDyadic m2 e2 m1 e1 = (cmpDyadic m1 e1 m2 e2).swap := by
  have sw (a c : Int) : compare c a = (compare a c).swap := Std.OrientedCmp.eq_swap
  unfold cmpDyadic
  by_cases h1 : e1 ≤ e2 <;> by_cases h2 : e2 ≤ e1
  · cases (by omega : e1 = e2); simp [sw m1 m2]
  · simp only [h1, h2, if_true, if_false]; exact sw ..
  · simp only [h1, h2, if_true, if_false]; exact sw ..
  · omega

/-- every clause ends in `errEndFlag` -/
theorem getJoinValidErrStr_ne_nil (obj field input : Bytes) (others : List Bytes) :
    getJoinValidErrStr obj field input others ≠ [] := by
  unfold getJoinValidErrStr
  cases others <;> exact List.append_ne_nil_of_right_ne_nil _ (by decide)

theorem getJoinFieldErr_ne_nil (obj field msg : Bytes) : getJoinFieldErr obj field msg ≠ [] :=
  List.append_ne_nil_of_right_ne_nil _ (by decide)

theorem violClause_ne_nil (obj field input cus : Bytes) (d : List Bytes) : violClause obj field input cus d ≠ [] := by
  unfold violClause
  split <;> exact getJoinValidErrStr_ne_nil _ _ _ _

/-- the one-bound rules `ge gt le lt` as the model's flags -/
def boundRule (isMin hasEqual : Bool) : SizeRule :=
  match isMin, hasEqual with
  | true, true => .ge | true, false => .gt | false, true => .le | false, false => .lt
def rangeRule (hasEqual : Bool) : SizeRule := if hasEqual then .to else .oto
def eqRule (wantEq : Bool) : SizeRule := if wantEq then .eq else .noeq

/-- Go's five comparisons of a value with a bound, as the model spells them for one kind of value,
agree with the three-way comparison of the measure -/
structure Compares (m : Measure) (b : Int) (lt gt le ge eq : Bool) : Prop where
  lt : lt = (cmp m b == .lt)
  gt : gt = (cmp m b == .gt)
  le : le = (cmp m b != .gt)
  ge : ge = (cmp m b != .lt)
  eq : eq = (cmp m b == .eq)

theorem int_compares (z b : Int) : Compares (.int z) b (z < b) (z > b) (z ≤ b) (z ≥ b) (z == b) := by
  constructor <;> rw [Bool.eq_iff_iff] <;>
    simp [cmp, Std.compare_eq_lt, Std.compare_eq_gt]

theorem f64OfInt_exact (z : Int) (h : bitLen z.natAbs ≤ 53) : f64OfInt z = .fin z 0 := by
  simp [f64OfInt, h]

/-- against the float of an exactly converted bound -/
theorem real_compares (f : FloatVal) (b : Int) (hf : f ≠ .nan) :
    Compares (.real f) b (f.lt (.fin b 0)) ((FloatVal.fin b 0).lt f) (f.le (.fin b 0)) ((FloatVal.fin b 0).le f)
      (f.eq (.fin b 0)) := by
  cases f with
  | nan => exact absurd rfl hf
  | inf neg => cases neg <;> exact ⟨rfl, rfl, rfl, rfl, rfl⟩
  | fin m e =>
    refine ⟨?_, ?_, ?_, ?_, ?_⟩ <;>
      simp only [FloatVal.le, FloatVal.lt, FloatVal.eq, cmp, cmpDyadic_swap m e b 0] <;>
      cases cmpDyadic m e b 0 <;> rfl

theorem measure_float {bits : Nat} {f : FloatVal} {r1 r2 : Bytes} {m : Measure}
    (hm : Spec.Size.measure (.float bits f r1 r2) = some m) : f ≠ .nan ∧ m = .real f := by
  cases f <;> simp_all [Spec.Size.measure]

theorem boundsExact_float {bits : Nat} {f : FloatVal} {r1 r2 : Bytes} {lo hi : Int}
    (hx : boundsExact (.float bits f r1 r2) lo hi = true) :
    f64OfInt lo = .fin lo 0 ∧ f64OfInt hi = .fin hi 0 := by
  simp only [boundsExact, Bool.and_eq_true, decide_eq_true_eq] at hx
  exact ⟨f64OfInt_exact lo hx.1, f64OfInt_exact hi hx.2⟩

theorem boundsExact_comm (v : GoVal) (lo hi : Int) : boundsExact v hi lo = boundsExact v lo hi := by
  cases v <;> simp [boundsExact, Bool.and_comm]

/-- what `validInputSize` reports, read off the comparison of the measure with each bound -/
theorem validInputSize_cmp (v : GoVal) (hasEqual : Bool) (lo hi : Int) (m : Measure)
    (hm : Spec.Size.measure v = some m) (hx : boundsExact v lo hi = true) :
    (validInputSize lo hi v hasEqual).less = (if hasEqual then cmp m lo == .lt else cmp m lo != .gt) ∧
    (validInputSize lo hi v hasEqual).more = (if hasEqual then cmp m hi == .gt else cmp m hi != .lt) := by
  cases v
  case float bits f r1 r2 =>
    obtain ⟨hf, rfl⟩ := measure_float hm
    obtain ⟨el, eh⟩ := boundsExact_float hx
    have l := real_compares f lo hf
    have h := real_compares f hi hf
    cases hasEqual <;> simp [validInputSize, el, eh, l.lt, l.le, h.gt, h.ge]
  all_goals cases hm
  all_goals
    cases hasEqual <;>
      simp [validInputSize, (int_compares _ lo).lt, (int_compares _ lo).le, (int_compares _ hi).gt, (int_compares _ hi).ge]

/-- the `isEq` component of `eqCore` -/
theorem eqCore_cmp (text key arg msg : Bytes) (v : GoVal) (m : Measure)
    (hp : parseValidNameKV text = (key, arg, msg))
    (hm : Spec.Size.measure v = some m) (hx : boundsExact v (atoi arg).1 0 = true) :
    (eqCore text v).2.2.2 = (cmp m (atoi arg).1 == .eq) := by
  unfold eqCore
  simp only [hp]
  cases v
  case float bits f r1 r2 =>
    obtain ⟨hf, rfl⟩ := measure_float hm
    simp only [(boundsExact_float hx).1, (real_compares f _ hf).eq]
  all_goals cases hm
  all_goals exact (int_compares _ _).eq

/-- a rule with a single bound reads its whole argument with `atoi` -/
theorem parseBounds_single {r : SizeRule} {arg : Bytes} {lo hi : Int} (hr : (r == .to || r == .oto) = false)
    (hb : parseBounds r arg = some (lo, hi)) : (atoi arg).1 = lo ∧ hi = 0 := by
  simp only [parseBounds, hr] at hb
  revert hb
  rcases atoi arg with ⟨z, e⟩
  cases e <;> simp
  exact fun h1 h2 => ⟨h1, h2.symm⟩

/-- … and a range rule reads what `parseTagTo` reads -/
theorem parseBounds_range {r : SizeRule} {arg : Bytes} {lo hi : Int} (hr : (r == .to || r == .oto) = true)
    (hb : parseBounds r arg = some (lo, hi)) (ext : Ext) (hasEqual : Bool) :
    parseTagTo ext arg hasEqual = .ok (.ok (lo, hi)) := by
  simp only [parseBounds, hr, if_true] at hb
  unfold parseTagTo
  split at hb
  · rename_i a c hs
    rcases ha : atoi a with ⟨z1, e1⟩
    rcases hc : atoi c with ⟨z2, e2⟩
    simp only [ha, hc] at hb
    cases e1 <;> cases e2 <;> simp at hb
    obtain ⟨rfl, rfl⟩ := hb
    simp [hs, ha, hc]
    rfl
  · simp at hb

end PGV.Proofs.Size
